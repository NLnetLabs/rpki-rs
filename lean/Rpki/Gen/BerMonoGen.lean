/-
  GENERATED by tools/gen_ber_model.py - do not edit.
  Whatever a DER decoder of the model accepts, its BER counterpart accepts with the same result.
  Each proof follows the paths of the DER definition by its case principle (`fun_cases`; the loop `parseLoop` by its
  induction principle, `fun_induction`, with the same two closing lines).  The first `all_goals try`
  disposes of the paths on which a reader refused: there the hypothesis is `none.isSome` or `.bad ≠ .bad`.  The last
  line is for the accepted paths: the BER definition is evaluated with the equations of the path (now hypotheses) and
  the lemmas of the readers it calls, whose side conditions those equations settle.  Three more steps where the
  definition calls for them.  A definition that ends in `.map`: `simp only [Option.isSome_map] at h` takes the
  hypothesis back to the reader under the `.map`.  A definition with a `let x : Option _ := match ..`: `fun_cases`
  does not follow the `let`, so on an accepted path its equation `x = some _` (`hlet`) is split as well.  A
  definition that matches on its input and reads it again: that second match is still in `h`, and
  `simp only [*] at h` puts the path's equations into it first.
-/
import Rpki.Gen.BerModel
import Rpki.Proofs.BerMono

open Rpki.Der Rpki.CertDer Rpki.CmsDer Rpki.SigObj Rpki.SigMsgDer Rpki.CrlDer

theorem Rpki.Manifest.takeTime_monoEq (b : Bytes) (h : (Rpki.Manifest.takeTime b).isSome) :
    Rpki.Manifest.takeTimeM true b = Rpki.Manifest.takeTime b := by
  revert h
  fun_cases Rpki.Manifest.takeTime b
  all_goals intro h
  all_goals try (cases h; done)
  all_goals simp only [Option.isSome_map] at h
  all_goals (subst_vars; unfold Rpki.Manifest.takeTimeM; simp +zetaDelta only [*, Rpki.takeOptPrim_monoEq, ber_path])

theorem Rpki.SigObj.takeSetOfOne_monoEq (tag : Nat) (r : Bytes) (h : (Rpki.SigObj.takeSetOfOne tag r).isSome) :
    Rpki.SigObj.takeSetOfOneM true tag r = Rpki.SigObj.takeSetOfOne tag r := by
  revert h
  fun_cases Rpki.SigObj.takeSetOfOne tag r
  all_goals intro h
  all_goals try (cases h; done)
  all_goals (subst_vars; unfold Rpki.SigObj.takeSetOfOneM; simp +zetaDelta only [*, Rpki.takeCons_monoEq, Rpki.takePrim_monoEq, ber_path])

theorem Rpki.SigObj.takeSetOfTime_monoEq (r : Bytes) (h : (Rpki.SigObj.takeSetOfTime r).isSome) :
    Rpki.SigObj.takeSetOfTimeM true r = Rpki.SigObj.takeSetOfTime r := by
  revert h
  fun_cases Rpki.SigObj.takeSetOfTime r
  all_goals intro h
  all_goals try (cases h; done)
  all_goals (subst_vars; unfold Rpki.SigObj.takeSetOfTimeM; simp +zetaDelta only [*, Rpki.takeCons_monoEq, Rpki.takeOptPrim_monoEq, ber_path])

theorem Rpki.SigObj.parseAttr_monoEq (strict : Bool) (p : Parsed) (body : Bytes) (h : (Rpki.SigObj.parseAttr strict p body).isSome) :
    Rpki.SigObj.parseAttrM true strict p body false = Rpki.SigObj.parseAttr strict p body := by
  revert h
  fun_cases Rpki.SigObj.parseAttr strict p body
  all_goals intro h
  all_goals try (cases h; done)
  all_goals (subst_vars; unfold Rpki.SigObj.parseAttrM; simp +zetaDelta only [*, Rpki.takePrim_monoEq, Rpki.SigObj.takeSetOfOne_monoEq, Rpki.SigObj.takeSetOfTime_monoEq, Rpki.skipAll_mono, ber_path])

theorem Rpki.SigObj.parseLoop_monoEq (strict : Bool) : ∀ (fuel : Nat) (b : Rpki.Der.Bytes) (p : Rpki.SigObj.Parsed),
    (Rpki.SigObj.parseLoop strict fuel b p).isSome → Rpki.SigObj.parseLoopM true strict fuel b p = Rpki.SigObj.parseLoop strict fuel b p := by
  intro fuel b p
  fun_induction Rpki.SigObj.parseLoop strict fuel b p
  all_goals intro h
  all_goals try (cases h; done)
  all_goals (rw [Rpki.SigObj.parseLoopM]; simp only [*, Rpki.takeOptConsIM_monoEq, Rpki.SigObj.parseAttr_monoEq, ber_path])

theorem Rpki.SigObj.parseAttrs_monoEq (strict : Bool) (attrs : Bytes) (h : (Rpki.SigObj.parseAttrs strict attrs).isSome) :
    Rpki.SigObj.parseAttrsM true strict attrs = Rpki.SigObj.parseAttrs strict attrs := by
  revert h
  fun_cases Rpki.SigObj.parseAttrs strict attrs
  all_goals intro h
  all_goals try (cases h; done)
  all_goals (subst_vars; unfold Rpki.SigObj.parseAttrsM; simp +zetaDelta only [*, Rpki.SigObj.parseLoop_monoEq, ber_path])

theorem Rpki.CertDer.takeOid_monoEq (b : Bytes) (h : (Rpki.CertDer.takeOid b).isSome) :
    Rpki.CertDer.takeOidM true b = Rpki.CertDer.takeOid b := by
  revert h
  fun_cases Rpki.CertDer.takeOid b
  all_goals intro h
  all_goals try (cases h; done)
  all_goals (subst_vars; unfold Rpki.CertDer.takeOidM; simp +zetaDelta only [*, Rpki.takePrim_monoEq, ber_path])

theorem Rpki.CertDer.takeOptNull_monoEq (b : Bytes) (h : (Rpki.CertDer.takeOptNull b).isSome) :
    Rpki.CertDer.takeOptNullM true b = Rpki.CertDer.takeOptNull b := by
  revert h
  fun_cases Rpki.CertDer.takeOptNull b
  all_goals intro h
  all_goals try (cases h; done)
  all_goals (subst_vars; unfold Rpki.CertDer.takeOptNullM; simp +zetaDelta only [*, Rpki.takeOptPrim_monoEq, ber_path])

theorem Rpki.CertDer.takeBitString_monoEq (b : Bytes) (h : (Rpki.CertDer.takeBitString b).isSome) :
    Rpki.CertDer.takeBitStringM true b = Rpki.CertDer.takeBitString b := by
  revert h
  fun_cases Rpki.CertDer.takeBitString b
  all_goals intro h
  all_goals try (cases h; done)
  all_goals simp only [Option.isSome_map] at h
  all_goals (subst_vars; unfold Rpki.CertDer.takeBitStringM; simp +zetaDelta only [*, Rpki.takePrim_monoEq, Rpki.bitStringTake_monoEq, ber_path])

theorem Rpki.CertDer.nameAttr_monoEq (c : Bytes) (h : (Rpki.CertDer.nameAttr () c).isSome) :
    Rpki.CertDer.nameAttrM true () c = Rpki.CertDer.nameAttr () c := by
  revert h
  fun_cases Rpki.CertDer.nameAttr () c
  all_goals intro h
  all_goals try (cases h; done)
  all_goals (subst_vars; unfold Rpki.CertDer.nameAttrM; simp +zetaDelta only [*, Rpki.takePrim_monoEq, Rpki.skipOne_monoEq, ber_path])

theorem Rpki.CertDer.nameRdn_monoEq (c : Bytes) (h : (Rpki.CertDer.nameRdn () c).isSome) :
    Rpki.CertDer.nameRdnM true () c = Rpki.CertDer.nameRdn () c := by
  revert h
  fun_cases Rpki.CertDer.nameRdn () c
  all_goals intro h
  all_goals try (cases h; done)
  all_goals (subst_vars; unfold Rpki.CertDer.nameRdnM; simp +zetaDelta only [*, Rpki.foldCons_monoEq Rpki.Der.tagSeq Rpki.CertDer.nameAttr (Rpki.CertDer.nameAttrM true) (fun _ c h => Rpki.CertDer.nameAttr_monoEq c h), ber_path])

theorem Rpki.CertDer.takeName_monoEq (b : Bytes) (h : (Rpki.CertDer.takeName b).isSome) :
    Rpki.CertDer.takeNameM true b = Rpki.CertDer.takeName b := by
  revert h
  fun_cases Rpki.CertDer.takeName b
  all_goals intro h
  all_goals try (cases h; done)
  all_goals (subst_vars; unfold Rpki.CertDer.takeNameM; simp +zetaDelta only [*, Rpki.takeCons_monoEq, Rpki.foldCons_monoEq Rpki.Der.tagSet Rpki.CertDer.nameRdn (Rpki.CertDer.nameRdnM true) (fun _ c h => Rpki.CertDer.nameRdn_monoEq c h), ber_path])

theorem Rpki.CertDer.takeSigAlg_monoEq (b : Bytes) (h : (Rpki.CertDer.takeSigAlg b).isSome) :
    Rpki.CertDer.takeSigAlgM true b = Rpki.CertDer.takeSigAlg b := by
  revert h
  fun_cases Rpki.CertDer.takeSigAlg b
  all_goals intro h
  all_goals try (cases h; done)
  all_goals (subst_vars; unfold Rpki.CertDer.takeSigAlgM; simp +zetaDelta only [*, Rpki.takeCons_monoEq, Rpki.takePrim_monoEq, Rpki.CertDer.takeOptNull_monoEq, ber_path])

theorem Rpki.CertDer.takeValidityCivil_monoEq (b : Bytes) (h : (Rpki.CertDer.takeValidityCivil b).isSome) :
    Rpki.CertDer.takeValidityCivilM true b = Rpki.CertDer.takeValidityCivil b := by
  revert h
  fun_cases Rpki.CertDer.takeValidityCivil b
  all_goals intro h
  all_goals try (cases h; done)
  all_goals (subst_vars; unfold Rpki.CertDer.takeValidityCivilM; simp +zetaDelta only [*, Rpki.takeCons_monoEq, Rpki.Manifest.takeTime_monoEq, ber_path])

theorem Rpki.CertDer.takeValidity_monoEq (b : Bytes) (h : (Rpki.CertDer.takeValidity b).isSome) :
    Rpki.CertDer.takeValidityM true b = Rpki.CertDer.takeValidity b := by
  revert h
  fun_cases Rpki.CertDer.takeValidity b
  all_goals intro h
  all_goals try (cases h; done)
  all_goals simp only [Option.isSome_map] at h
  all_goals (subst_vars; unfold Rpki.CertDer.takeValidityM; simp +zetaDelta only [*, Rpki.CertDer.takeValidityCivil_monoEq, ber_path])

theorem Rpki.CertDer.takePublicKey_monoEq (b : Bytes) (h : (Rpki.CertDer.takePublicKey b).isSome) :
    Rpki.CertDer.takePublicKeyM true b = Rpki.CertDer.takePublicKey b := by
  revert h
  fun_cases Rpki.CertDer.takePublicKey b
  all_goals intro h
  all_goals try (cases h; done)
  all_goals (have hlet := ‹(_ : Option KeyAlg) = some _›; dsimp +zetaDelta only at hlet; repeat' split at hlet)
  all_goals cases hlet
  all_goals (subst_vars; unfold Rpki.CertDer.takePublicKeyM; simp +zetaDelta only [*, Rpki.takeCons_monoEq, Rpki.CertDer.takeOid_monoEq, Rpki.CertDer.takeOptNull_monoEq, Rpki.takePrim_monoEq, Rpki.CertDer.takeBitString_monoEq, ber_path])

theorem Rpki.CertDer.extension_monoEq (e : Exts) (c : Bytes) (h : (Rpki.CertDer.extension e c).isSome) :
    Rpki.CertDer.extensionM true e c = Rpki.CertDer.extension e c := by
  revert h
  fun_cases Rpki.CertDer.extension e c
  all_goals intro h
  all_goals try (cases h; done)
  all_goals (have hlet := ‹(_ : Option (Bool × Bytes)) = some _›; dsimp +zetaDelta only at hlet; repeat' split at hlet)
  all_goals cases hlet
  all_goals (subst_vars; unfold Rpki.CertDer.extensionM; simp +zetaDelta only [*, Rpki.CertDer.takeOid_monoEq, Rpki.takeOptBool_monoEq, Rpki.takePrim_monoEq, ber_path])

theorem Rpki.CertDer.decodeTbs_monoEq (raw : Bytes) (outerParam : Bool) (signature : Bytes) (h : (Rpki.CertDer.decodeTbs raw outerParam signature).isSome) :
    Rpki.CertDer.decodeTbsM true raw outerParam signature = Rpki.CertDer.decodeTbs raw outerParam signature := by
  revert h
  fun_cases Rpki.CertDer.decodeTbs raw outerParam signature
  all_goals intro h
  all_goals try (cases h; done)
  all_goals (subst_vars; unfold Rpki.CertDer.decodeTbsM; simp +zetaDelta only [*, Rpki.takeCons_monoEq, Rpki.takePrim_monoEq, Rpki.CertDer.takeSigAlg_monoEq, Rpki.CertDer.takeName_monoEq, Rpki.CertDer.takeValidityCivil_monoEq, Rpki.CertDer.takePublicKey_monoEq, Rpki.foldCons_monoEq Rpki.Der.tagSeq Rpki.CertDer.extension (Rpki.CertDer.extensionM true) (fun s c h => Rpki.CertDer.extension_monoEq s c h), ber_path])

theorem Rpki.CertDer.certBody_monoEq (c : Bytes) (h : (Rpki.CertDer.certBody c).isSome) :
    Rpki.CertDer.certBodyM true c = Rpki.CertDer.certBody c := by
  revert h
  fun_cases Rpki.CertDer.certBody c
  all_goals intro h
  all_goals try (cases h; done)
  all_goals (subst_vars; unfold Rpki.CertDer.certBodyM; simp +zetaDelta only [*, Rpki.skipOne_monoEq, Rpki.CertDer.takeSigAlg_monoEq, Rpki.CertDer.takeBitString_monoEq, Rpki.CertDer.decodeTbs_monoEq, ber_path])

theorem Rpki.CertDer.takeCert_monoEq (b : Bytes) (h : (Rpki.CertDer.takeCert b).isSome) :
    Rpki.CertDer.takeCertM true b = Rpki.CertDer.takeCert b := by
  revert h
  fun_cases Rpki.CertDer.takeCert b
  all_goals intro h
  all_goals try (cases h; done)
  all_goals simp only [Option.isSome_map] at h
  all_goals (subst_vars; unfold Rpki.CertDer.takeCertM; simp +zetaDelta only [*, Rpki.takeCons_monoEq, Rpki.CertDer.certBody_monoEq, ber_path])

theorem Rpki.CertDer.decodeCert_monoEq (b : Bytes) (h : (Rpki.CertDer.decodeCert b).isSome) :
    Rpki.CertDer.decodeCertM true b = Rpki.CertDer.decodeCert b := by
  revert h
  fun_cases Rpki.CertDer.decodeCert b
  all_goals intro h
  all_goals try (cases h; done)
  all_goals simp only [Option.isSome_map] at h
  all_goals (subst_vars; unfold Rpki.CertDer.decodeCertM; simp +zetaDelta only [*, Rpki.CertDer.takeCert_monoEq, ber_path])

theorem Rpki.CmsDer.takeDigestAlg_monoEq (b : Bytes) (h : (Rpki.CmsDer.takeDigestAlg b).isSome) :
    Rpki.CmsDer.takeDigestAlgM true b = Rpki.CmsDer.takeDigestAlg b := by
  revert h
  fun_cases Rpki.CmsDer.takeDigestAlg b
  all_goals intro h
  all_goals try (cases h; done)
  all_goals (subst_vars; unfold Rpki.CmsDer.takeDigestAlgM; simp +zetaDelta only [*, Rpki.takeCons_monoEq, Rpki.takePrim_monoEq, Rpki.CertDer.takeOptNull_monoEq, ber_path])

theorem Rpki.CmsDer.takeCmsSigAlg_monoEq (b : Bytes) (h : (Rpki.CmsDer.takeCmsSigAlg b).isSome) :
    Rpki.CmsDer.takeCmsSigAlgM true b = Rpki.CmsDer.takeCmsSigAlg b := by
  revert h
  fun_cases Rpki.CmsDer.takeCmsSigAlg b
  all_goals intro h
  all_goals try (cases h; done)
  all_goals (subst_vars; unfold Rpki.CmsDer.takeCmsSigAlgM; simp +zetaDelta only [*, Rpki.takeCons_monoEq, Rpki.CertDer.takeOid_monoEq, Rpki.CertDer.takeOptNull_monoEq, ber_path])

theorem Rpki.CmsDer.skipU8_monoEq (n : Nat) (b : Bytes) (h : (Rpki.CmsDer.skipU8 n b).isSome) :
    Rpki.CmsDer.skipU8M true n b = Rpki.CmsDer.skipU8 n b := by
  revert h
  fun_cases Rpki.CmsDer.skipU8 n b
  all_goals intro h
  all_goals try (cases h; done)
  all_goals (subst_vars; unfold Rpki.CmsDer.skipU8M; simp +zetaDelta only [*, Rpki.takePrim_monoEq, ber_path])

theorem Rpki.CmsDer.signerInfo_monoEq (contentType : Bytes) (c : Bytes) (h : (Rpki.CmsDer.signerInfo contentType c).isSome) :
    Rpki.CmsDer.signerInfoM true contentType c = Rpki.CmsDer.signerInfo contentType c := by
  revert h
  fun_cases Rpki.CmsDer.signerInfo contentType c
  all_goals intro h
  all_goals try (cases h; done)
  all_goals (subst_vars; unfold Rpki.CmsDer.signerInfoM; simp +zetaDelta only [*, Rpki.CmsDer.skipU8_monoEq, Rpki.takePrim_monoEq, Rpki.CmsDer.takeDigestAlg_monoEq, Rpki.takeCons_monoEq, Rpki.SigObj.parseAttrs_monoEq, Rpki.CmsDer.takeCmsSigAlg_monoEq, ber_path])

theorem Rpki.CmsDer.signedData_monoEq (sd : Bytes) (h : (Rpki.CmsDer.signedData sd).isSome) :
    Rpki.CmsDer.signedDataM true sd = Rpki.CmsDer.signedData sd := by
  revert h
  fun_cases Rpki.CmsDer.signedData sd
  all_goals intro h
  all_goals try (cases h; done)
  all_goals (subst_vars; unfold Rpki.CmsDer.signedDataM; simp +zetaDelta only [*, Rpki.CmsDer.skipU8_monoEq, Rpki.takeCons_monoEq, Rpki.CmsDer.takeDigestAlg_monoEq, Rpki.CertDer.takeOid_monoEq, Rpki.takePrim_monoEq, Rpki.CertDer.takeCert_monoEq, Rpki.CmsDer.signerInfo_monoEq, ber_path])

theorem Rpki.CmsDer.decodeSigObj_monoEq (b : Bytes) (h : (Rpki.CmsDer.decodeSigObj b).isSome) :
    Rpki.CmsDer.decodeSigObjM true b = Rpki.CmsDer.decodeSigObj b := by
  revert h
  fun_cases Rpki.CmsDer.decodeSigObj b
  all_goals intro h
  all_goals try (cases h; done)
  all_goals (subst_vars; unfold Rpki.CmsDer.decodeSigObjM; simp +zetaDelta only [*, Rpki.takeCons_monoEq, Rpki.takePrim_monoEq, Rpki.CmsDer.signedData_monoEq, ber_path])

theorem Rpki.CmsDer.decodeTyped_monoEq (ty : String) (b : Bytes) (h : (Rpki.CmsDer.decodeTyped ty b).isSome) :
    Rpki.CmsDer.decodeTypedM true ty b = Rpki.CmsDer.decodeTyped ty b := by
  revert h
  fun_cases Rpki.CmsDer.decodeTyped ty b
  all_goals intro h
  all_goals try (cases h; done)
  all_goals (subst_vars; unfold Rpki.CmsDer.decodeTypedM; simp +zetaDelta only [*, Rpki.CmsDer.decodeSigObj_monoEq, ber_path])

theorem Rpki.CrlDer.crlExtension_monoEq (e : CrlExts) (c : Bytes) (h : (Rpki.CrlDer.crlExtension e c).isSome) :
    Rpki.CrlDer.crlExtensionM true e c = Rpki.CrlDer.crlExtension e c := by
  revert h
  fun_cases Rpki.CrlDer.crlExtension e c
  all_goals intro h
  all_goals try (cases h; done)
  all_goals (have hlet := ‹(_ : Option Bytes) = some _›; dsimp +zetaDelta only at hlet; repeat' split at hlet)
  all_goals cases hlet
  all_goals (subst_vars; unfold Rpki.CrlDer.crlExtensionM; simp +zetaDelta only [*, Rpki.CertDer.takeOid_monoEq, Rpki.takeOptBool_monoEq, Rpki.takePrim_monoEq, ber_path])

theorem Rpki.SigMsgDer.idExtension_monoEq (e : IdExts) (c : Bytes) (h : (Rpki.SigMsgDer.idExtension e c).isSome) :
    Rpki.SigMsgDer.idExtensionM true e c = Rpki.SigMsgDer.idExtension e c := by
  revert h
  fun_cases Rpki.SigMsgDer.idExtension e c
  all_goals intro h
  all_goals try (cases h; done)
  all_goals (have hlet := ‹(_ : Option Bytes) = some _›; dsimp +zetaDelta only at hlet; repeat' split at hlet)
  all_goals cases hlet
  all_goals (subst_vars; unfold Rpki.SigMsgDer.idExtensionM; simp +zetaDelta only [*, Rpki.CertDer.takeOid_monoEq, Rpki.takeOptBool_monoEq, Rpki.takePrim_monoEq, ber_path])

theorem Rpki.SigMsgDer.idExtsOf_monoEq (r6 : Bytes) (h : (Rpki.SigMsgDer.idExtsOf r6).isSome) :
    Rpki.SigMsgDer.idExtsOfM true r6 = Rpki.SigMsgDer.idExtsOf r6 := by
  revert h
  fun_cases Rpki.SigMsgDer.idExtsOf r6
  all_goals intro h
  all_goals try (cases h; done)
  all_goals (subst_vars; unfold Rpki.SigMsgDer.idExtsOfM; simp +zetaDelta only [*, Rpki.takeOptCons_monoEq, Rpki.takeCons_monoEq, Rpki.foldCons_monoEq Rpki.Der.tagSeq Rpki.SigMsgDer.idExtension (Rpki.SigMsgDer.idExtensionM true) (fun s c h => Rpki.SigMsgDer.idExtension_monoEq s c h), ber_path])

theorem Rpki.SigMsgDer.decodeTbsId_monoEq (raw : Bytes) (signature : Bytes) (h : (Rpki.SigMsgDer.decodeTbsId raw signature).isSome) :
    Rpki.SigMsgDer.decodeTbsIdM true raw signature = Rpki.SigMsgDer.decodeTbsId raw signature := by
  revert h
  fun_cases Rpki.SigMsgDer.decodeTbsId raw signature
  all_goals intro h
  all_goals try (cases h; done)
  all_goals (subst_vars; unfold Rpki.SigMsgDer.decodeTbsIdM; simp +zetaDelta only [*, Rpki.takeCons_monoEq, Rpki.takePrim_monoEq, Rpki.CertDer.takeSigAlg_monoEq, Rpki.CertDer.takeName_monoEq, Rpki.CertDer.takeValidityCivil_monoEq, Rpki.CertDer.takePublicKey_monoEq, Rpki.SigMsgDer.idExtsOf_monoEq, ber_path])

theorem Rpki.SigMsgDer.idCertBody_monoEq (c : Bytes) (h : (Rpki.SigMsgDer.idCertBody c).isSome) :
    Rpki.SigMsgDer.idCertBodyM true c = Rpki.SigMsgDer.idCertBody c := by
  revert h
  fun_cases Rpki.SigMsgDer.idCertBody c
  all_goals intro h
  all_goals try (cases h; done)
  all_goals (subst_vars; unfold Rpki.SigMsgDer.idCertBodyM; simp +zetaDelta only [*, Rpki.skipOne_monoEq, Rpki.CertDer.takeSigAlg_monoEq, Rpki.CertDer.takeBitString_monoEq, Rpki.SigMsgDer.decodeTbsId_monoEq, ber_path])

theorem Rpki.SigMsgDer.decodeIdCert_monoEq (b : Bytes) (h : (Rpki.SigMsgDer.decodeIdCert b).isSome) :
    Rpki.SigMsgDer.decodeIdCertM true b = Rpki.SigMsgDer.decodeIdCert b := by
  revert h
  fun_cases Rpki.SigMsgDer.decodeIdCert b
  all_goals intro h
  all_goals try (cases h; done)
  all_goals (subst_vars; unfold Rpki.SigMsgDer.decodeIdCertM; simp +zetaDelta only [*, Rpki.takeCons_monoEq, Rpki.SigMsgDer.idCertBody_monoEq, ber_path])

theorem Rpki.SigMsgDer.msgCrlExtension_monoEq (e : CrlDer.CrlExts) (c : Bytes) (h : (Rpki.SigMsgDer.msgCrlExtension e c).isSome) :
    Rpki.SigMsgDer.msgCrlExtensionM true e c = Rpki.SigMsgDer.msgCrlExtension e c := by
  revert h
  fun_cases Rpki.SigMsgDer.msgCrlExtension e c
  all_goals intro h
  all_goals try (cases h; done)
  all_goals (subst_vars; unfold Rpki.SigMsgDer.msgCrlExtensionM; simp +zetaDelta only [*, Rpki.CertDer.takeOid_monoEq, Rpki.CrlDer.crlExtension_monoEq, ber_path])

theorem Rpki.SigMsgDer.takeOptMsgEntry_monoEq (b : Bytes) (h : Rpki.SigMsgDer.takeOptMsgEntry b ≠ .bad) :
    Rpki.SigMsgDer.takeOptMsgEntryM true b = Rpki.SigMsgDer.takeOptMsgEntry b := by
  revert h
  fun_cases Rpki.SigMsgDer.takeOptMsgEntry b
  all_goals intro h
  all_goals try exact absurd rfl h
  all_goals (subst_vars; unfold Rpki.SigMsgDer.takeOptMsgEntryM; simp +zetaDelta only [*, Rpki.takeOptCons_monoEq, Rpki.takePrim_monoEq, Rpki.Manifest.takeTime_monoEq, Rpki.skipAll_mono, Rpki.takeOptConsIM_monoEq, ber_path])

theorem Rpki.SigMsgDer.takeMsgRevoked_monoEq (b : Bytes) (h : (Rpki.SigMsgDer.takeMsgRevoked b).isSome) :
    Rpki.SigMsgDer.takeMsgRevokedM true b = Rpki.SigMsgDer.takeMsgRevoked b := by
  revert h
  fun_cases Rpki.SigMsgDer.takeMsgRevoked b
  all_goals intro h
  all_goals try (cases h; done)
  all_goals (subst_vars; unfold Rpki.SigMsgDer.takeMsgRevokedM; simp +zetaDelta only [*, Rpki.takeOptCons_monoEq, Rpki.capturePass_monoEq Rpki.SigMsgDer.takeOptMsgEntry (Rpki.SigMsgDer.takeOptMsgEntryM true) (fun _ => true) (fun b h => Rpki.SigMsgDer.takeOptMsgEntry_monoEq b h), ber_path])

theorem Rpki.SigMsgDer.msgRevokedSerials_monoEq (cap : Bytes) (h : (Rpki.SigMsgDer.msgRevokedSerials cap).isSome) :
    Rpki.SigMsgDer.msgRevokedSerialsM true cap = Rpki.SigMsgDer.msgRevokedSerials cap := by
  revert h
  fun_cases Rpki.SigMsgDer.msgRevokedSerials cap
  all_goals intro h
  all_goals try (cases h; done)
  all_goals simp only [Option.isSome_map] at h
  all_goals (subst_vars; unfold Rpki.SigMsgDer.msgRevokedSerialsM; simp +zetaDelta only [*, Rpki.iteratePass_monoEq Rpki.SigMsgDer.takeOptMsgEntry (Rpki.SigMsgDer.takeOptMsgEntryM true) (fun b h => Rpki.SigMsgDer.takeOptMsgEntry_monoEq b h), ber_path])

theorem Rpki.SigMsgDer.decodeTbsMsgCrl_monoEq (raw : Bytes) (h : (Rpki.SigMsgDer.decodeTbsMsgCrl raw).isSome) :
    Rpki.SigMsgDer.decodeTbsMsgCrlM true raw = Rpki.SigMsgDer.decodeTbsMsgCrl raw := by
  revert h
  fun_cases Rpki.SigMsgDer.decodeTbsMsgCrl raw
  all_goals intro h
  all_goals try (cases h; done)
  all_goals (subst_vars; unfold Rpki.SigMsgDer.decodeTbsMsgCrlM; simp +zetaDelta only [*, Rpki.takeCons_monoEq, Rpki.takePrim_monoEq, Rpki.CertDer.takeSigAlg_monoEq, Rpki.CertDer.takeName_monoEq, Rpki.Manifest.takeTime_monoEq, Rpki.SigMsgDer.takeMsgRevoked_monoEq, Rpki.foldCons_monoEq Rpki.Der.tagSeq Rpki.SigMsgDer.msgCrlExtension (Rpki.SigMsgDer.msgCrlExtensionM true) (fun s c h => Rpki.SigMsgDer.msgCrlExtension_monoEq s c h), ber_path])

theorem Rpki.SigMsgDer.msgCrlBody_monoEq (c : Bytes) (h : (Rpki.SigMsgDer.msgCrlBody c).isSome) :
    Rpki.SigMsgDer.msgCrlBodyM true c = Rpki.SigMsgDer.msgCrlBody c := by
  revert h
  fun_cases Rpki.SigMsgDer.msgCrlBody c
  all_goals intro h
  all_goals try (cases h; done)
  all_goals simp only [Option.isSome_map] at h
  all_goals (subst_vars; unfold Rpki.SigMsgDer.msgCrlBodyM; simp +zetaDelta only [*, Rpki.skipOne_monoEq, Rpki.CertDer.takeSigAlg_monoEq, Rpki.CertDer.takeBitString_monoEq, Rpki.SigMsgDer.decodeTbsMsgCrl_monoEq, ber_path])

theorem Rpki.SigMsgDer.msgSignerInfo_monoEq (contentType : Bytes) (c : Bytes) (h : (Rpki.SigMsgDer.msgSignerInfo contentType c).isSome) :
    Rpki.SigMsgDer.msgSignerInfoM true contentType c = Rpki.SigMsgDer.msgSignerInfo contentType c := by
  revert h
  fun_cases Rpki.SigMsgDer.msgSignerInfo contentType c
  all_goals intro h
  all_goals try (cases h; done)
  all_goals (subst_vars; unfold Rpki.SigMsgDer.msgSignerInfoM; simp +zetaDelta only [*, Rpki.CmsDer.skipU8_monoEq, Rpki.takePrim_monoEq, Rpki.CmsDer.takeDigestAlg_monoEq, Rpki.takeCons_monoEq, Rpki.SigObj.parseAttrs_monoEq, Rpki.CmsDer.takeCmsSigAlg_monoEq, ber_path])

theorem Rpki.SigMsgDer.msgEncap_monoEq (r1 : Bytes) (h : (Rpki.SigMsgDer.msgEncap r1).isSome) :
    Rpki.SigMsgDer.msgEncapM true r1 = Rpki.SigMsgDer.msgEncap r1 := by
  revert h
  fun_cases Rpki.SigMsgDer.msgEncap r1
  all_goals intro h
  all_goals try (cases h; done)
  all_goals (subst_vars; unfold Rpki.SigMsgDer.msgEncapM; simp +zetaDelta only [*, Rpki.takeCons_monoEq, Rpki.CertDer.takeOid_monoEq, Rpki.takePrim_monoEq, ber_path])

theorem Rpki.SigMsgDer.msgCertPart_monoEq (r2 : Bytes) (h : (Rpki.SigMsgDer.msgCertPart r2).isSome) :
    Rpki.SigMsgDer.msgCertPartM true r2 = Rpki.SigMsgDer.msgCertPart r2 := by
  revert h
  fun_cases Rpki.SigMsgDer.msgCertPart r2
  all_goals intro h
  all_goals try simp only [*] at h
  all_goals try (cases h; done)
  all_goals (subst_vars; unfold Rpki.SigMsgDer.msgCertPartM; simp +zetaDelta only [*, Rpki.takeCons_monoEq, Rpki.readTlv_monoEq, Rpki.SigMsgDer.idCertBody_monoEq, ber_path])

theorem Rpki.SigMsgDer.msgCrlPart_monoEq (r3 : Bytes) (h : (Rpki.SigMsgDer.msgCrlPart r3).isSome) :
    Rpki.SigMsgDer.msgCrlPartM true r3 = Rpki.SigMsgDer.msgCrlPart r3 := by
  revert h
  fun_cases Rpki.SigMsgDer.msgCrlPart r3
  all_goals intro h
  all_goals try (cases h; done)
  all_goals (subst_vars; unfold Rpki.SigMsgDer.msgCrlPartM; simp +zetaDelta only [*, Rpki.takeCons_monoEq, Rpki.SigMsgDer.msgCrlBody_monoEq, ber_path])

theorem Rpki.SigMsgDer.msgSignerPart_monoEq (contentType r4 : Bytes) (h : (Rpki.SigMsgDer.msgSignerPart contentType r4).isSome) :
    Rpki.SigMsgDer.msgSignerPartM true contentType r4 = Rpki.SigMsgDer.msgSignerPart contentType r4 := by
  revert h
  fun_cases Rpki.SigMsgDer.msgSignerPart contentType r4
  all_goals intro h
  all_goals try (cases h; done)
  all_goals (subst_vars; unfold Rpki.SigMsgDer.msgSignerPartM; simp +zetaDelta only [*, Rpki.takeCons_monoEq, Rpki.SigMsgDer.msgSignerInfo_monoEq, ber_path])

theorem Rpki.SigMsgDer.msgHead_monoEq (sd : Bytes) (h : (Rpki.SigMsgDer.msgHead sd).isSome) :
    Rpki.SigMsgDer.msgHeadM true sd = Rpki.SigMsgDer.msgHead sd := by
  revert h
  fun_cases Rpki.SigMsgDer.msgHead sd
  all_goals intro h
  all_goals try (cases h; done)
  all_goals (subst_vars; unfold Rpki.SigMsgDer.msgHeadM; simp +zetaDelta only [*, Rpki.CmsDer.skipU8_monoEq, Rpki.takeCons_monoEq, Rpki.CmsDer.takeDigestAlg_monoEq, ber_path])

theorem Rpki.SigMsgDer.msgSignedData_monoEq (sd : Bytes) (h : (Rpki.SigMsgDer.msgSignedData sd).isSome) :
    Rpki.SigMsgDer.msgSignedDataM true sd = Rpki.SigMsgDer.msgSignedData sd := by
  revert h
  fun_cases Rpki.SigMsgDer.msgSignedData sd
  all_goals intro h
  all_goals try (cases h; done)
  all_goals (subst_vars; unfold Rpki.SigMsgDer.msgSignedDataM; simp +zetaDelta only [*, Rpki.SigMsgDer.msgHead_monoEq, Rpki.SigMsgDer.msgEncap_monoEq, Rpki.SigMsgDer.msgCertPart_monoEq, Rpki.SigMsgDer.msgCrlPart_monoEq, Rpki.SigMsgDer.msgSignerPart_monoEq, ber_path])

theorem Rpki.SigMsgDer.decodeSigMsg_monoEq (b : Bytes) (h : (Rpki.SigMsgDer.decodeSigMsg b).isSome) :
    Rpki.SigMsgDer.decodeSigMsgM true b = Rpki.SigMsgDer.decodeSigMsg b := by
  revert h
  fun_cases Rpki.SigMsgDer.decodeSigMsg b
  all_goals intro h
  all_goals try (cases h; done)
  all_goals (subst_vars; unfold Rpki.SigMsgDer.decodeSigMsgM; simp +zetaDelta only [*, Rpki.takeCons_monoEq, Rpki.takePrim_monoEq, Rpki.SigMsgDer.msgSignedData_monoEq, ber_path])
