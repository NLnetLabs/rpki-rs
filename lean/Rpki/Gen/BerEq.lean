/-
  GENERATED by tools/gen_ber_model.py - do not edit.
  Every definition of Gen/BerModel.lean at ber = false is the definition of the DER model of the same name.  For a
  definition written from the DER text: after the rewriting with the equalities of the definitions it calls, the two
  texts differ in the names of the match functions only, which `rfl` identifies.  The four whose BER text is written
  by hand need more: `parseAttrM` a simplification of its extra test, `lastRouterStringM` and `takeOptMsgEntryM` a
  comparison by cases, `parseLoopM` and the two generic loops an induction on the fuel.
-/
import Rpki.Gen.BerModel
import Rpki.Proofs.BerLeaf

theorem Rpki.Manifest.takeTimeM_false : @Rpki.Manifest.takeTimeM false = @Rpki.Manifest.takeTime := by
  repeat' (apply funext; intro)
  unfold Rpki.Manifest.takeTimeM Rpki.Manifest.takeTime
  rw [Rpki.takeOptPrimM_false] <;> rfl

theorem Rpki.SigObj.takeSetOfOneM_false : @Rpki.SigObj.takeSetOfOneM false = @Rpki.SigObj.takeSetOfOne := by
  repeat' (apply funext; intro)
  unfold Rpki.SigObj.takeSetOfOneM Rpki.SigObj.takeSetOfOne
  rw [Rpki.takeConsM_false, Rpki.takePrimM_false] <;> rfl

theorem Rpki.SigObj.takeSetOfTimeM_false : @Rpki.SigObj.takeSetOfTimeM false = @Rpki.SigObj.takeSetOfTime := by
  repeat' (apply funext; intro)
  unfold Rpki.SigObj.takeSetOfTimeM Rpki.SigObj.takeSetOfTime
  rw [Rpki.takeConsM_false, Rpki.takeOptPrimM_false] <;> rfl

theorem Rpki.SigObj.parseAttrM_false (strict : Bool) (p : Rpki.SigObj.Parsed) (body : Rpki.Der.Bytes) :
    Rpki.SigObj.parseAttrM false strict p body false = Rpki.SigObj.parseAttr strict p body := by
  unfold Rpki.SigObj.parseAttrM Rpki.SigObj.parseAttr
  simp only [Rpki.takePrimM_false, Rpki.SigObj.takeSetOfOneM_false, Rpki.SigObj.takeSetOfTimeM_false, Rpki.skipAllM_false, Bool.not_false, true_and]
  rfl

theorem Rpki.SigObj.parseLoopM_false : Rpki.SigObj.parseLoopM false = Rpki.SigObj.parseLoop := by
  funext strict fuel
  induction fuel with
  | zero => funext b p; rfl
  | succ n ih =>
    funext b p
    simp only [Rpki.SigObj.parseLoopM, Rpki.SigObj.parseLoop, Rpki.takeOptConsIM_false, ih]
    cases Rpki.Der.takeOptCons Rpki.Der.tagSeq b with
    | absent => rfl
    | bad => rfl
    | ok body rest => simp only [Rpki.SigObj.parseAttrM_false]; rfl

theorem Rpki.SigObj.parseAttrsM_false : @Rpki.SigObj.parseAttrsM false = @Rpki.SigObj.parseAttrs := by
  repeat' (apply funext; intro)
  unfold Rpki.SigObj.parseAttrsM Rpki.SigObj.parseAttrs
  rw [Rpki.SigObj.parseLoopM_false] <;> rfl

theorem Rpki.CertDer.foldConsM_false : @Rpki.CertDer.foldConsM false = @Rpki.CertDer.foldCons := by
  funext σ tag f fuel
  induction fuel with
  | zero => funext b s; rfl
  | succ n ih =>
    funext b s
    simp only [Rpki.CertDer.foldConsM, Rpki.CertDer.foldCons, Rpki.takeOptConsM_false, ih]
    rfl

theorem Rpki.CertDer.foldPrimM_false : @Rpki.CertDer.foldPrimM false = @Rpki.CertDer.foldPrim := by
  funext σ tag f fuel
  induction fuel with
  | zero => funext b s; rfl
  | succ n ih =>
    funext b s
    simp only [Rpki.CertDer.foldPrimM, Rpki.CertDer.foldPrim, Rpki.takeOptPrimM_false, ih]
    rfl

theorem Rpki.CertDer.takeOidM_false : @Rpki.CertDer.takeOidM false = @Rpki.CertDer.takeOid := by
  repeat' (apply funext; intro)
  unfold Rpki.CertDer.takeOidM Rpki.CertDer.takeOid
  rw [Rpki.takePrimM_false] <;> rfl

theorem Rpki.CertDer.takeOptNullM_false : @Rpki.CertDer.takeOptNullM false = @Rpki.CertDer.takeOptNull := by
  repeat' (apply funext; intro)
  unfold Rpki.CertDer.takeOptNullM Rpki.CertDer.takeOptNull
  rw [Rpki.takeOptPrimM_false] <;> rfl

theorem Rpki.CertDer.takeBitStringM_false : @Rpki.CertDer.takeBitStringM false = @Rpki.CertDer.takeBitString := by
  repeat' (apply funext; intro)
  unfold Rpki.CertDer.takeBitStringM Rpki.CertDer.takeBitString
  rw [Rpki.takePrimM_false, Rpki.bitStringTakeM_false] <;> rfl

theorem Rpki.CertDer.nameAttrM_false : @Rpki.CertDer.nameAttrM false = @Rpki.CertDer.nameAttr := by
  repeat' (apply funext; intro)
  unfold Rpki.CertDer.nameAttrM Rpki.CertDer.nameAttr
  rw [Rpki.takePrimM_false, Rpki.skipOneM_false] <;> rfl

theorem Rpki.CertDer.nameRdnM_false : @Rpki.CertDer.nameRdnM false = @Rpki.CertDer.nameRdn := by
  repeat' (apply funext; intro)
  unfold Rpki.CertDer.nameRdnM Rpki.CertDer.nameRdn
  rw [Rpki.CertDer.foldConsM_false, Rpki.CertDer.nameAttrM_false] <;> rfl

theorem Rpki.CertDer.takeNameM_false : @Rpki.CertDer.takeNameM false = @Rpki.CertDer.takeName := by
  repeat' (apply funext; intro)
  unfold Rpki.CertDer.takeNameM Rpki.CertDer.takeName
  rw [Rpki.takeConsM_false, Rpki.CertDer.foldConsM_false, Rpki.CertDer.nameRdnM_false] <;> rfl

theorem Rpki.CertDer.lastPrintableM_false : @Rpki.CertDer.lastPrintableM false = @Rpki.CertDer.lastPrintable := by
  repeat' (apply funext; intro)
  unfold Rpki.CertDer.lastPrintableM Rpki.CertDer.lastPrintable
  rw [Rpki.takePrimM_false] <;> rfl

theorem Rpki.CertDer.lastRouterStringM_false : Rpki.CertDer.lastRouterStringM false = Rpki.CertDer.lastRouterString := by
  funext r
  -- the two texts differ: the BER one looks at the tag and then reads through `takePrimM`, the DER one reads the value
  -- first and then looks at the tag; they are compared case by case on tag, form and what `readTlv` gives
  unfold Rpki.CertDer.lastRouterStringM Rpki.CertDer.lastRouterString
  cases r with
  | nil => rfl
  | cons t rest =>
    simp only [Rpki.takePrimM_false, Rpki.Der.takePrim, Rpki.Der.takeOptPrim]
    by_cases ht : t % 32 = 31
    · simp [ht]
    · simp only [ht, if_false]
      have hne : ¬ Rpki.CertDer.tagUtf8 = Rpki.CertDer.tagPrintable := by decide
      have hne' : ¬ Rpki.CertDer.tagPrintable = Rpki.CertDer.tagUtf8 := by decide
      by_cases h1 : Rpki.Der.tagNoCons t = Rpki.CertDer.tagPrintable
      · have h2 : ¬ Rpki.Der.tagNoCons t = Rpki.CertDer.tagUtf8 := by rw [h1]; exact hne'
        cases hr : Rpki.Der.readTlv (t :: rest) with
        | none => by_cases hc : Rpki.Der.isCons t = true <;> simp [h1, hc]
        | some q =>
          obtain ⟨a, c, r2⟩ := q
          by_cases hc : Rpki.Der.isCons t = true <;> by_cases h3 : r2 = [] <;> simp [h1, hc, h3]
      · by_cases h2 : Rpki.Der.tagNoCons t = Rpki.CertDer.tagUtf8
        · cases hr : Rpki.Der.readTlv (t :: rest) with
          | none => by_cases hc : Rpki.Der.isCons t = true <;> simp [h2, hc, hne]
          | some q =>
            obtain ⟨a, c, r2⟩ := q
            by_cases hc : Rpki.Der.isCons t = true <;> by_cases h3 : r2 = [] <;> simp [h2, hc, h3, hne]
        · cases hr : Rpki.Der.readTlv (t :: rest) with
          | none => simp [h1, h2]
          | some q =>
            obtain ⟨a, c, r2⟩ := q
            by_cases h3 : r2 = [] <;> simp [h1, h2, h3]

theorem Rpki.CertDer.inspectAttrM_false : @Rpki.CertDer.inspectAttrM false = @Rpki.CertDer.inspectAttr := by
  repeat' (apply funext; intro)
  unfold Rpki.CertDer.inspectAttrM Rpki.CertDer.inspectAttr
  rw [Rpki.CertDer.takeOidM_false] <;> rfl

theorem Rpki.CertDer.inspectNameM_false : @Rpki.CertDer.inspectNameM false = @Rpki.CertDer.inspectName := by
  repeat' (apply funext; intro)
  unfold Rpki.CertDer.inspectNameM Rpki.CertDer.inspectName
  rw [Rpki.takeConsM_false, Rpki.CertDer.foldConsM_false, Rpki.CertDer.inspectAttrM_false] <;> rfl

theorem Rpki.CertDer.inspectRpkiNameM_false : @Rpki.CertDer.inspectRpkiNameM false = @Rpki.CertDer.inspectRpkiName := by
  repeat' (apply funext; intro)
  unfold Rpki.CertDer.inspectRpkiNameM Rpki.CertDer.inspectRpkiName
  rw [Rpki.CertDer.inspectNameM_false, Rpki.CertDer.lastPrintableM_false] <;> rfl

theorem Rpki.CertDer.inspectRouterNameM_false : @Rpki.CertDer.inspectRouterNameM false = @Rpki.CertDer.inspectRouterName := by
  repeat' (apply funext; intro)
  unfold Rpki.CertDer.inspectRouterNameM Rpki.CertDer.inspectRouterName
  rw [Rpki.CertDer.inspectNameM_false, Rpki.CertDer.lastRouterStringM_false] <;> rfl

theorem Rpki.CertDer.takeSigAlgM_false : @Rpki.CertDer.takeSigAlgM false = @Rpki.CertDer.takeSigAlg := by
  repeat' (apply funext; intro)
  unfold Rpki.CertDer.takeSigAlgM Rpki.CertDer.takeSigAlg
  rw [Rpki.takeConsM_false, Rpki.takePrimM_false, Rpki.CertDer.takeOptNullM_false] <;> rfl

theorem Rpki.CertDer.takeValidityCivilM_false : @Rpki.CertDer.takeValidityCivilM false = @Rpki.CertDer.takeValidityCivil := by
  repeat' (apply funext; intro)
  unfold Rpki.CertDer.takeValidityCivilM Rpki.CertDer.takeValidityCivil
  rw [Rpki.takeConsM_false, Rpki.Manifest.takeTimeM_false] <;> rfl

theorem Rpki.CertDer.takeValidityM_false : @Rpki.CertDer.takeValidityM false = @Rpki.CertDer.takeValidity := by
  repeat' (apply funext; intro)
  unfold Rpki.CertDer.takeValidityM Rpki.CertDer.takeValidity
  rw [Rpki.CertDer.takeValidityCivilM_false] <;> rfl

theorem Rpki.CertDer.takePublicKeyM_false : @Rpki.CertDer.takePublicKeyM false = @Rpki.CertDer.takePublicKey := by
  repeat' (apply funext; intro)
  unfold Rpki.CertDer.takePublicKeyM Rpki.CertDer.takePublicKey
  rw [Rpki.takeConsM_false, Rpki.CertDer.takeOidM_false, Rpki.CertDer.takeOptNullM_false, Rpki.takePrimM_false, Rpki.CertDer.takeBitStringM_false] <;> rfl

theorem Rpki.CertDer.extensionM_false : @Rpki.CertDer.extensionM false = @Rpki.CertDer.extension := by
  repeat' (apply funext; intro)
  unfold Rpki.CertDer.extensionM Rpki.CertDer.extension
  rw [Rpki.CertDer.takeOidM_false, Rpki.takeOptBoolM_false, Rpki.takePrimM_false] <;> rfl

theorem Rpki.CertDer.decodeTbsM_false : @Rpki.CertDer.decodeTbsM false = @Rpki.CertDer.decodeTbs := by
  repeat' (apply funext; intro)
  unfold Rpki.CertDer.decodeTbsM Rpki.CertDer.decodeTbs
  rw [Rpki.takeConsM_false, Rpki.takePrimM_false, Rpki.CertDer.takeSigAlgM_false, Rpki.CertDer.takeNameM_false, Rpki.CertDer.takeValidityCivilM_false, Rpki.CertDer.takePublicKeyM_false, Rpki.CertDer.foldConsM_false, Rpki.CertDer.extensionM_false] <;> rfl

theorem Rpki.CertDer.certBodyM_false : @Rpki.CertDer.certBodyM false = @Rpki.CertDer.certBody := by
  repeat' (apply funext; intro)
  unfold Rpki.CertDer.certBodyM Rpki.CertDer.certBody
  rw [Rpki.skipOneM_false, Rpki.CertDer.takeSigAlgM_false, Rpki.CertDer.takeBitStringM_false, Rpki.CertDer.decodeTbsM_false] <;> rfl

theorem Rpki.CertDer.takeCertM_false : @Rpki.CertDer.takeCertM false = @Rpki.CertDer.takeCert := by
  repeat' (apply funext; intro)
  unfold Rpki.CertDer.takeCertM Rpki.CertDer.takeCert
  rw [Rpki.takeConsM_false, Rpki.CertDer.certBodyM_false] <;> rfl

theorem Rpki.CertDer.decodeCertM_false : @Rpki.CertDer.decodeCertM false = @Rpki.CertDer.decodeCert := by
  repeat' (apply funext; intro)
  unfold Rpki.CertDer.decodeCertM Rpki.CertDer.decodeCert
  rw [Rpki.CertDer.takeCertM_false] <;> rfl

theorem Rpki.CertDer.toFactsM_false : @Rpki.CertDer.toFactsM false = @Rpki.CertDer.toFacts := by
  repeat' (apply funext; intro)
  unfold Rpki.CertDer.toFactsM Rpki.CertDer.toFacts
  rw [Rpki.CertDer.inspectRpkiNameM_false, Rpki.CertDer.inspectRouterNameM_false] <;> rfl

theorem Rpki.CmsDer.takeDigestAlgM_false : @Rpki.CmsDer.takeDigestAlgM false = @Rpki.CmsDer.takeDigestAlg := by
  repeat' (apply funext; intro)
  unfold Rpki.CmsDer.takeDigestAlgM Rpki.CmsDer.takeDigestAlg
  rw [Rpki.takeConsM_false, Rpki.takePrimM_false, Rpki.CertDer.takeOptNullM_false] <;> rfl

theorem Rpki.CmsDer.takeCmsSigAlgM_false : @Rpki.CmsDer.takeCmsSigAlgM false = @Rpki.CmsDer.takeCmsSigAlg := by
  repeat' (apply funext; intro)
  unfold Rpki.CmsDer.takeCmsSigAlgM Rpki.CmsDer.takeCmsSigAlg
  rw [Rpki.takeConsM_false, Rpki.CertDer.takeOidM_false, Rpki.CertDer.takeOptNullM_false] <;> rfl

theorem Rpki.CmsDer.skipU8M_false : @Rpki.CmsDer.skipU8M false = @Rpki.CmsDer.skipU8 := by
  repeat' (apply funext; intro)
  unfold Rpki.CmsDer.skipU8M Rpki.CmsDer.skipU8
  rw [Rpki.takePrimM_false] <;> rfl

theorem Rpki.CmsDer.signerInfoM_false : @Rpki.CmsDer.signerInfoM false = @Rpki.CmsDer.signerInfo := by
  repeat' (apply funext; intro)
  unfold Rpki.CmsDer.signerInfoM Rpki.CmsDer.signerInfo
  rw [Rpki.CmsDer.skipU8M_false, Rpki.takePrimM_false, Rpki.CmsDer.takeDigestAlgM_false, Rpki.takeConsM_false, Rpki.SigObj.parseAttrsM_false, Rpki.CmsDer.takeCmsSigAlgM_false] <;> rfl

theorem Rpki.CmsDer.signedDataM_false : @Rpki.CmsDer.signedDataM false = @Rpki.CmsDer.signedData := by
  repeat' (apply funext; intro)
  unfold Rpki.CmsDer.signedDataM Rpki.CmsDer.signedData
  rw [Rpki.CmsDer.skipU8M_false, Rpki.takeConsM_false, Rpki.CmsDer.takeDigestAlgM_false, Rpki.CertDer.takeOidM_false, Rpki.takePrimM_false, Rpki.CertDer.takeCertM_false, Rpki.CmsDer.signerInfoM_false] <;> rfl

theorem Rpki.CmsDer.decodeSigObjM_false : @Rpki.CmsDer.decodeSigObjM false = @Rpki.CmsDer.decodeSigObj := by
  repeat' (apply funext; intro)
  unfold Rpki.CmsDer.decodeSigObjM Rpki.CmsDer.decodeSigObj
  rw [Rpki.takeConsM_false, Rpki.takePrimM_false, Rpki.CmsDer.signedDataM_false] <;> rfl

theorem Rpki.CmsDer.decodeTypedM_false : @Rpki.CmsDer.decodeTypedM false = @Rpki.CmsDer.decodeTyped := by
  repeat' (apply funext; intro)
  unfold Rpki.CmsDer.decodeTypedM Rpki.CmsDer.decodeTyped
  rw [Rpki.CmsDer.decodeSigObjM_false] <;> rfl

theorem Rpki.CmsDer.toObjM_false : @Rpki.CmsDer.toObjM false = @Rpki.CmsDer.toObj := by
  repeat' (apply funext; intro)
  unfold Rpki.CmsDer.toObjM Rpki.CmsDer.toObj
  rw [Rpki.CertDer.toFactsM_false] <;> rfl

theorem Rpki.CrlDer.crlExtensionM_false : @Rpki.CrlDer.crlExtensionM false = @Rpki.CrlDer.crlExtension := by
  repeat' (apply funext; intro)
  unfold Rpki.CrlDer.crlExtensionM Rpki.CrlDer.crlExtension
  rw [Rpki.CertDer.takeOidM_false, Rpki.takeOptBoolM_false, Rpki.takePrimM_false] <;> rfl

theorem Rpki.SigMsgDer.idExtensionM_false : @Rpki.SigMsgDer.idExtensionM false = @Rpki.SigMsgDer.idExtension := by
  repeat' (apply funext; intro)
  unfold Rpki.SigMsgDer.idExtensionM Rpki.SigMsgDer.idExtension
  rw [Rpki.CertDer.takeOidM_false, Rpki.takeOptBoolM_false, Rpki.takePrimM_false] <;> rfl

theorem Rpki.SigMsgDer.idExtsOfM_false : @Rpki.SigMsgDer.idExtsOfM false = @Rpki.SigMsgDer.idExtsOf := by
  repeat' (apply funext; intro)
  unfold Rpki.SigMsgDer.idExtsOfM Rpki.SigMsgDer.idExtsOf
  rw [Rpki.takeOptConsM_false, Rpki.takeConsM_false, Rpki.CertDer.foldConsM_false, Rpki.SigMsgDer.idExtensionM_false] <;> rfl

theorem Rpki.SigMsgDer.decodeTbsIdM_false : @Rpki.SigMsgDer.decodeTbsIdM false = @Rpki.SigMsgDer.decodeTbsId := by
  repeat' (apply funext; intro)
  unfold Rpki.SigMsgDer.decodeTbsIdM Rpki.SigMsgDer.decodeTbsId
  rw [Rpki.takeConsM_false, Rpki.takePrimM_false, Rpki.CertDer.takeSigAlgM_false, Rpki.CertDer.takeNameM_false, Rpki.CertDer.takeValidityCivilM_false, Rpki.CertDer.takePublicKeyM_false, Rpki.SigMsgDer.idExtsOfM_false] <;> rfl

theorem Rpki.SigMsgDer.idCertBodyM_false : @Rpki.SigMsgDer.idCertBodyM false = @Rpki.SigMsgDer.idCertBody := by
  repeat' (apply funext; intro)
  unfold Rpki.SigMsgDer.idCertBodyM Rpki.SigMsgDer.idCertBody
  rw [Rpki.skipOneM_false, Rpki.CertDer.takeSigAlgM_false, Rpki.CertDer.takeBitStringM_false, Rpki.SigMsgDer.decodeTbsIdM_false] <;> rfl

theorem Rpki.SigMsgDer.decodeIdCertM_false : @Rpki.SigMsgDer.decodeIdCertM false = @Rpki.SigMsgDer.decodeIdCert := by
  repeat' (apply funext; intro)
  unfold Rpki.SigMsgDer.decodeIdCertM Rpki.SigMsgDer.decodeIdCert
  rw [Rpki.takeConsM_false, Rpki.SigMsgDer.idCertBodyM_false] <;> rfl

theorem Rpki.SigMsgDer.msgCrlExtensionM_false : @Rpki.SigMsgDer.msgCrlExtensionM false = @Rpki.SigMsgDer.msgCrlExtension := by
  repeat' (apply funext; intro)
  unfold Rpki.SigMsgDer.msgCrlExtensionM Rpki.SigMsgDer.msgCrlExtension
  rw [Rpki.CertDer.takeOidM_false, Rpki.CrlDer.crlExtensionM_false] <;> rfl

theorem Rpki.SigMsgDer.takeOptMsgEntryM_false : Rpki.SigMsgDer.takeOptMsgEntryM false = Rpki.SigMsgDer.takeOptMsgEntry := by
  funext b
  -- a value the DER reader reads has definite length: on every path of the DER definition the BER text comes to the same
  fun_cases Rpki.SigMsgDer.takeOptMsgEntry b
  all_goals (rw [Rpki.SigMsgDer.takeOptMsgEntryM]; simp only [*, Rpki.takeOptConsM_false, Rpki.takePrimM_false, Rpki.Manifest.takeTimeM_false, Rpki.skipAllM_false, Rpki.takeOptConsIM_false, if_true, if_false, Bool.not_false, true_and, and_self])

theorem Rpki.SigMsgDer.takeMsgRevokedM_false : @Rpki.SigMsgDer.takeMsgRevokedM false = @Rpki.SigMsgDer.takeMsgRevoked := by
  repeat' (apply funext; intro)
  unfold Rpki.SigMsgDer.takeMsgRevokedM Rpki.SigMsgDer.takeMsgRevoked
  rw [Rpki.takeOptConsM_false, Rpki.SigMsgDer.takeOptMsgEntryM_false] <;> rfl

theorem Rpki.SigMsgDer.msgRevokedSerialsM_false : @Rpki.SigMsgDer.msgRevokedSerialsM false = @Rpki.SigMsgDer.msgRevokedSerials := by
  repeat' (apply funext; intro)
  unfold Rpki.SigMsgDer.msgRevokedSerialsM Rpki.SigMsgDer.msgRevokedSerials
  rw [Rpki.SigMsgDer.takeOptMsgEntryM_false] <;> rfl

theorem Rpki.SigMsgDer.decodeTbsMsgCrlM_false : @Rpki.SigMsgDer.decodeTbsMsgCrlM false = @Rpki.SigMsgDer.decodeTbsMsgCrl := by
  repeat' (apply funext; intro)
  unfold Rpki.SigMsgDer.decodeTbsMsgCrlM Rpki.SigMsgDer.decodeTbsMsgCrl
  rw [Rpki.takeConsM_false, Rpki.takePrimM_false, Rpki.CertDer.takeSigAlgM_false, Rpki.CertDer.takeNameM_false, Rpki.Manifest.takeTimeM_false, Rpki.SigMsgDer.takeMsgRevokedM_false, Rpki.CertDer.foldConsM_false, Rpki.SigMsgDer.msgCrlExtensionM_false] <;> rfl

theorem Rpki.SigMsgDer.msgCrlBodyM_false : @Rpki.SigMsgDer.msgCrlBodyM false = @Rpki.SigMsgDer.msgCrlBody := by
  repeat' (apply funext; intro)
  unfold Rpki.SigMsgDer.msgCrlBodyM Rpki.SigMsgDer.msgCrlBody
  rw [Rpki.skipOneM_false, Rpki.CertDer.takeSigAlgM_false, Rpki.CertDer.takeBitStringM_false, Rpki.SigMsgDer.decodeTbsMsgCrlM_false] <;> rfl

theorem Rpki.SigMsgDer.msgSignerInfoM_false : @Rpki.SigMsgDer.msgSignerInfoM false = @Rpki.SigMsgDer.msgSignerInfo := by
  repeat' (apply funext; intro)
  unfold Rpki.SigMsgDer.msgSignerInfoM Rpki.SigMsgDer.msgSignerInfo
  rw [Rpki.CmsDer.skipU8M_false, Rpki.takePrimM_false, Rpki.CmsDer.takeDigestAlgM_false, Rpki.takeConsM_false, Rpki.SigObj.parseAttrsM_false, Rpki.CmsDer.takeCmsSigAlgM_false] <;> rfl

theorem Rpki.SigMsgDer.msgEncapM_false : @Rpki.SigMsgDer.msgEncapM false = @Rpki.SigMsgDer.msgEncap := by
  repeat' (apply funext; intro)
  unfold Rpki.SigMsgDer.msgEncapM Rpki.SigMsgDer.msgEncap
  rw [Rpki.takeConsM_false, Rpki.CertDer.takeOidM_false, Rpki.takePrimM_false] <;> rfl

theorem Rpki.SigMsgDer.msgCertPartM_false : @Rpki.SigMsgDer.msgCertPartM false = @Rpki.SigMsgDer.msgCertPart := by
  repeat' (apply funext; intro)
  unfold Rpki.SigMsgDer.msgCertPartM Rpki.SigMsgDer.msgCertPart
  rw [Rpki.takeConsM_false, Rpki.readTlvM_false, Rpki.SigMsgDer.idCertBodyM_false] <;> rfl

theorem Rpki.SigMsgDer.msgCrlPartM_false : @Rpki.SigMsgDer.msgCrlPartM false = @Rpki.SigMsgDer.msgCrlPart := by
  repeat' (apply funext; intro)
  unfold Rpki.SigMsgDer.msgCrlPartM Rpki.SigMsgDer.msgCrlPart
  rw [Rpki.takeConsM_false, Rpki.SigMsgDer.msgCrlBodyM_false] <;> rfl

theorem Rpki.SigMsgDer.msgSignerPartM_false : @Rpki.SigMsgDer.msgSignerPartM false = @Rpki.SigMsgDer.msgSignerPart := by
  repeat' (apply funext; intro)
  unfold Rpki.SigMsgDer.msgSignerPartM Rpki.SigMsgDer.msgSignerPart
  rw [Rpki.takeConsM_false, Rpki.SigMsgDer.msgSignerInfoM_false] <;> rfl

theorem Rpki.SigMsgDer.msgHeadM_false : @Rpki.SigMsgDer.msgHeadM false = @Rpki.SigMsgDer.msgHead := by
  repeat' (apply funext; intro)
  unfold Rpki.SigMsgDer.msgHeadM Rpki.SigMsgDer.msgHead
  rw [Rpki.CmsDer.skipU8M_false, Rpki.takeConsM_false, Rpki.CmsDer.takeDigestAlgM_false] <;> rfl

theorem Rpki.SigMsgDer.msgSignedDataM_false : @Rpki.SigMsgDer.msgSignedDataM false = @Rpki.SigMsgDer.msgSignedData := by
  repeat' (apply funext; intro)
  unfold Rpki.SigMsgDer.msgSignedDataM Rpki.SigMsgDer.msgSignedData
  rw [Rpki.SigMsgDer.msgHeadM_false, Rpki.SigMsgDer.msgEncapM_false, Rpki.SigMsgDer.msgCertPartM_false, Rpki.SigMsgDer.msgCrlPartM_false, Rpki.SigMsgDer.msgSignerPartM_false] <;> rfl

theorem Rpki.SigMsgDer.decodeSigMsgM_false : @Rpki.SigMsgDer.decodeSigMsgM false = @Rpki.SigMsgDer.decodeSigMsg := by
  repeat' (apply funext; intro)
  unfold Rpki.SigMsgDer.decodeSigMsgM Rpki.SigMsgDer.decodeSigMsg
  rw [Rpki.takeConsM_false, Rpki.takePrimM_false, Rpki.SigMsgDer.msgSignedDataM_false] <;> rfl

theorem Rpki.SigMsgDer.toMsgM_false : @Rpki.SigMsgDer.toMsgM false = @Rpki.SigMsgDer.toMsg := by
  repeat' (apply funext; intro)
  unfold Rpki.SigMsgDer.toMsgM Rpki.SigMsgDer.toMsg
  rw [Rpki.SigMsgDer.msgRevokedSerialsM_false] <;> rfl
