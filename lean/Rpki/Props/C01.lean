/-
  C01 — certificate validation: only correctly issued certificates, resources never grow.
  Property theorems over `Rpki/Model/Cert.lean`; the resource part rests on C03's `verifyIssued_subset`.  The
  predicates of the statements and the path invariant `Under` are in `Rpki/Proofs/CertPath.lean`.
-/
import Rpki.Props.C03
import Rpki.Proofs.CertPath
namespace Rpki.Props.C01
open Rpki.Chain Rpki.Cert

theorem validityOk_iff (f : Facts) (now : Int) :
    validityOk f now = true ↔ f.validity.nb ≤ now ∧ now ≤ f.validity.na :=
  X509.verifyAt_accepts_iff f.validity now

theorem issuerClaim_iff (f : Facts) (i : RC) :
    issuerClaim f i = true ↔ f.aki = some i.ski ∧ f.aia = true := by
  unfold issuerClaim
  cases h : f.aki with
  | none => simp
  | some a => simp

/-- Issued certificates (CA and EE): verification succeeds exactly when the evaluation time is
inside the validity window, the authority key identifier is the issuer's subject key identifier
(and an AIA is present), the signature verifies under the issuer's key, and the resources are
admissible; the result carries exactly the resources `verify_issued` computes. -/
theorem verifyIssuedCert_iff (f : Facts) (i : RC) (now : Int) (r : RC) :
    verifyIssuedCert f i now = some r ↔
      (f.validity.nb ≤ now ∧ now ≤ f.validity.na) ∧ f.aki = some i.ski ∧ f.aia = true ∧
      f.sigOk = true ∧ verifyResources f i = some r := by
  unfold verifyIssuedCert
  rw [← validityOk_iff, ← and_assoc (b := f.aia = true), ← issuerClaim_iff]
  cases validityOk f now <;> cases issuerClaim f i <;> cases f.sigOk <;> simp

theorem validateCa_iff (f : Facts) (i : RC) (now : Int) (r : RC) :
    validateCa f i now = some r ↔ inspectCa f = true ∧ verifyIssuedCert f i now = some r := by
  unfold validateCa; by_cases h : inspectCa f = true <;> simp [h]

theorem validateEe_iff (f : Facts) (i : RC) (now : Int) (r : RC) :
    validateEe f i now = some r ↔ inspectEe f = true ∧ verifyIssuedCert f i now = some r := by
  unfold validateEe; by_cases h : inspectEe f = true <;> simp [h]

theorem inspectBasics_ski {f : Facts} (h : inspectBasics f = true) : f.ski = f.keyId := by
  unfold inspectBasics at h
  simp only [Bool.and_eq_true, beq_iff_eq] at h
  exact h.1.2

theorem validateCa_sound (f : Facts) (i : RC) (now : Int) (r : RC) (h : validateCa f i now = some r) : Issued f i now := by
  obtain ⟨hi, hv⟩ := (validateCa_iff f i now r).1 h
  obtain ⟨⟨h1, h2⟩, h3, _, h5, _⟩ := (verifyIssuedCert_iff f i now r).1 hv
  have hb : inspectBasics f = true := by
    unfold inspectCa at hi; simp only [Bool.and_eq_true] at hi; exact hi.1.1
  exact ⟨h5, h1, h2, h3, inspectBasics_ski hb⟩

theorem validateEe_sound (f : Facts) (i : RC) (now : Int) (r : RC) (h : validateEe f i now = some r) : Issued f i now := by
  obtain ⟨hi, hv⟩ := (validateEe_iff f i now r).1 h
  obtain ⟨⟨h1, h2⟩, h3, _, h5, _⟩ := (verifyIssuedCert_iff f i now r).1 hv
  have hb : inspectBasics f = true := by
    unfold inspectEe at hi; simp only [Bool.and_eq_true] at hi; exact hi.1.1.1.1.1.1
  exact ⟨h5, h1, h2, h3, inspectBasics_ski hb⟩

theorem validateRouter_sound (f : Facts) (i : RC) (now : Int) (h : validateRouter f i now = true) : Issued f i now := by
  simp only [validateRouter, Bool.if_false_left, Bool.decide_eq_true, Bool.not_not, Bool.and_eq_true] at h
  obtain ⟨h0, hv, hc, hs, _⟩ := h
  have hv' := (validityOk_iff f now).1 hv
  simp only [inspectRouter, Bool.and_eq_true, beq_iff_eq] at h0
  exact ⟨hs, hv'.1, hv'.2, ((issuerClaim_iff f i).1 hc).1, h0.1.1.1.1.1.1.1.1.2⟩

/-- A trust anchor is accepted only with a valid self-signature, inside the validity window,
with the key identifier matching the key, and with no inherited resources; the result carries
exactly the listed blocks. -/
theorem validateTa_sound (f : Facts) (now : Int) (r : RC) (h : validateTa f now = some r) :
    f.sigOk = true ∧ f.validity.nb ≤ now ∧ now ≤ f.validity.na ∧ f.ski = f.keyId ∧
    f.v4 ≠ .inherit ∧ f.v6 ≠ .inherit ∧ f.asn ≠ .inherit ∧
    fromResources f.v4 = some r.v4 ∧ fromResources f.v6 = some r.v6 ∧ fromResources f.asn = some r.asn := by
  unfold validateTa at h
  obtain ⟨h0, h⟩ := Option.ite_none_left_eq_some.1 h
  obtain ⟨hv, h⟩ := Option.ite_none_left_eq_some.1 h
  split at h
  next a b c h4 h6 ha =>
    split at h
    next hs =>
      injection h with h
      subst h
      simp only [Bool.not_eq_true, Bool.not_eq_false'] at h0 hv
      have hv' := (validityOk_iff f now).1 hv
      simp only [inspectTa, Bool.and_eq_true] at h0
      refine ⟨hs, hv'.1, hv'.2, inspectBasics_ski h0.1.1.1.1, ?_, ?_, ?_, h4, h6, ha⟩
      · intro e; rw [e] at h4; cases h4
      · intro e; rw [e] at h6; cases h6
      · intro e; rw [e] at ha; cases ha
    · cases h
  · cases h

theorem verifyResources_sub (f : Facts) (i r : RC) (hf : ClaimsCanon f) (hi : RC.Canon i)
    (h : verifyResources f i = some r) :
    RC.Canon r ∧ RC.Sub r i ∧ r.ski = f.ski ∧
    verifyIssued maxV4 i.v4 f.v4 f.trim = some r.v4 ∧
    verifyIssued maxV6 i.v6 f.v6 f.trim = some r.v6 ∧
    verifyIssued maxAs i.asn f.asn f.trim = some r.asn := by
  unfold verifyResources at h
  have s4 := C03.verifyIssued_subset maxV4 i.v4 hi.1 f.v4 f.trim hf.1
  have s6 := C03.verifyIssued_subset maxV6 i.v6 hi.2.1 f.v6 f.trim hf.2.1
  have sa := C03.verifyIssued_subset maxAs i.asn hi.2.2 f.asn f.trim hf.2.2
  split at h
  next a b c h4 h6 ha =>
    rw [h4] at s4
    rw [h6] at s6
    rw [ha] at sa
    injection h with h
    subst h
    exact ⟨⟨s4.1, s6.1, sa.1⟩, ⟨s4.2.1, s6.2.1, sa.2.1⟩, rfl, h4, h6, ha⟩
  · cases h

/-- Resources never grow in one step: whatever a CA or EE certificate claims, the validated
resources are canonical and a subset of the issuer's validated resources, in every family; they
are exactly `verify_issued` of the claim (see `C03.verifyIssued_subset` for its four exact cases:
empty for a missing extension, the issuer's own under `inherit`, exactly the claimed blocks under
the no-overclaim policy when covered — rejection otherwise —, the intersection under trimming). -/
theorem validated_subset (f : Facts) (i r : RC) (now : Int) (hf : ClaimsCanon f) (hi : RC.Canon i)
    (h : validateCa f i now = some r ∨ validateEe f i now = some r) :
    RC.Canon r ∧ RC.Sub r i := by
  have hv : verifyIssuedCert f i now = some r := by
    rcases h with h | h
    · exact ((validateCa_iff f i now r).1 h).2
    · exact ((validateEe_iff f i now r).1 h).2
  have := verifyResources_sub f i r hf hi ((verifyIssuedCert_iff f i now r).1 hv).2.2.2.2
  exact ⟨this.1, this.2.1⟩

theorem vi_refuse_blocks (M : Nat) (issuer c r : List Blk) (hi : Chain.Canon M issuer) (hc : Chain.Canon M c)
    (h : verifyIssued M issuer (.blocks c) false = some r) : r = c ∧ ∀ x, mem c x → mem issuer x := by
  have := C03.verifyIssued_subset M issuer hi (.blocks c) false (by intro c' e; cases e; exact hc)
  rw [h] at this
  simpa using this.2.2

/-- No-overclaim certificates claiming anything outside the issuer are rejected. -/
theorem overclaim_rejected (f : Facts) (i : RC) (now : Int) (hf : ClaimsCanon f) (hi : RC.Canon i)
    (ht : f.trim = false)
    (hout : (∃ c x, f.v4 = .blocks c ∧ mem c x ∧ ¬ mem i.v4 x) ∨
            (∃ c x, f.v6 = .blocks c ∧ mem c x ∧ ¬ mem i.v6 x) ∨
            (∃ c x, f.asn = .blocks c ∧ mem c x ∧ ¬ mem i.asn x)) :
    validateCa f i now = none ∧ validateEe f i now = none := by
  have key : ∀ r, verifyIssuedCert f i now ≠ some r := by
    intro r h
    obtain ⟨_, _, _, e4, e6, ea⟩ := verifyResources_sub f i r hf hi ((verifyIssuedCert_iff f i now r).1 h).2.2.2.2
    rcases hout with ⟨c, x, hc, hm, hn⟩ | ⟨c, x, hc, hm, hn⟩ | ⟨c, x, hc, hm, hn⟩
    · rw [hc, ht] at e4; exact hn ((vi_refuse_blocks _ _ _ _ hi.1 (hf.1 c hc) e4).2 x hm)
    · rw [hc, ht] at e6; exact hn ((vi_refuse_blocks _ _ _ _ hi.2.1 (hf.2.1 c hc) e6).2 x hm)
    · rw [hc, ht] at ea; exact hn ((vi_refuse_blocks _ _ _ _ hi.2.2 (hf.2.2 c hc) ea).2 x hm)
  exact ⟨Option.eq_none_iff_forall_ne_some.2 fun r h => key r ((validateCa_iff f i now r).1 h).2,
    Option.eq_none_iff_forall_ne_some.2 fun r h => key r ((validateEe_iff f i now r).1 h).2⟩

theorem validateTa_canon (f : Facts) (now : Int) (r : RC) (hf : ClaimsCanon f) (h : validateTa f now = some r) :
    RC.Canon r := by
  obtain ⟨_, _, _, _, _, _, _, e4, e6, ea⟩ := validateTa_sound f now r h
  have key : ∀ (M : Nat) (cl : Claim) (l : List Blk), (∀ c, cl = .blocks c → Chain.Canon M c) →
      fromResources cl = some l → Chain.Canon M l := by
    intro M cl l hc e
    cases cl with
    | missing => injection e with e; rw [← e]; exact canon_nil _
    | inherit => cases e
    | blocks c => injection e with e; rw [← e]; exact hc c rfl
  exact ⟨key _ _ _ hf.1 e4, key _ _ _ hf.2.1 e6, key _ _ _ hf.2.2 ea⟩

/-- Resources never grow along a whole chain: along TA → CA* → EE the validated resources of every
certificate are a subset of the trust anchor's, whatever the certificates claim. -/
theorem chain_monotone (cas : List (Facts × Int)) (rc r : RC) (hrc : RC.Canon rc)
    (hf : ∀ p ∈ cas, ClaimsCanon p.1) (h : validateChain rc cas = some r) :
    RC.Canon r ∧ RC.Sub r rc := by
  induction cas generalizing rc with
  | nil => injection h with h; exact h ▸ Under.root hrc
  | cons p rest ih =>
    rw [validateChain] at h
    cases hv : validateCa p.1 rc p.2 with
    | none => rw [hv] at h; cases h
    | some r1 =>
      rw [hv] at h
      have s1 : Under rc r1 := validated_subset p.1 rc r1 p.2 (hf _ (List.mem_cons_self ..)) hrc (Or.inl hv)
      exact s1.trans (ih r1 s1.1 (fun q hq => hf q (List.mem_cons_of_mem _ hq)) h)

theorem chain_ee_monotone (cas : List (Facts × Int)) (ta : Facts) (t0 : Int) (ee : Facts) (now : Int)
    (rta rca r : RC) (hta : ClaimsCanon ta) (hf : ∀ p ∈ cas, ClaimsCanon p.1) (hee : ClaimsCanon ee)
    (h0 : validateTa ta t0 = some rta) (h1 : validateChain rta cas = some rca)
    (h2 : validateEe ee rca now = some r) : RC.Sub r rta :=
  have s1 : Under rta rca := chain_monotone cas rta rca (validateTa_canon ta t0 rta hta h0) hf h1
  (s1.trans (validated_subset ee rca r now hee s1.1 (Or.inr h2))).2

/-- Changing one input of an accepted CA/EE certificate to a non-conforming value — a signature that
no longer verifies (any change to the signed bytes, the signature or the issuer key), an evaluation
time outside the window, another authority key identifier, a subject key identifier that is not
the hash of the key — yields rejection. -/
theorem single_fault_rejects (f : Facts) (i : RC) (now : Int)
    (hbad : f.sigOk = false ∨ now < f.validity.nb ∨ f.validity.na < now ∨ f.aki ≠ some i.ski ∨ f.ski ≠ f.keyId) :
    validateCa f i now = none ∧ validateEe f i now = none ∧ validateRouter f i now = false :=
  have n := not_issued hbad
  ⟨Option.eq_none_iff_forall_ne_some.2 fun r h => n (validateCa_sound f i now r h),
   Option.eq_none_iff_forall_ne_some.2 fun r h => n (validateEe_sound f i now r h),
   Bool.eq_false_iff.2 fun h => n (validateRouter_sound f i now h)⟩

theorem single_fault_rejects_ta (f : Facts) (now : Int)
    (hbad : f.sigOk = false ∨ now < f.validity.nb ∨ f.validity.na < now ∨ f.ski ≠ f.keyId ∨
            f.v4 = .inherit ∨ f.v6 = .inherit ∨ f.asn = .inherit) :
    validateTa f now = none := by
  cases h : validateTa f now with
  | none => rfl
  | some r =>
    obtain ⟨a, b, c, d, e4, e6, ea, _⟩ := validateTa_sound f now r h
    rcases hbad with h | h | h | h | h | h | h
    · rw [a] at h; cases h
    · exact absurd b (Int.not_le.2 h)
    · exact absurd c (Int.not_le.2 h)
    · exact absurd d h
    · exact absurd h e4
    · exact absurd h e6
    · exact absurd h ea

/-! ### non-vacuity: a concrete trust anchor and a CA certificate under it are accepted -/

def exTa : Facts := {
  sigOk := true
  validity := ⟨10, 20⟩
  ski := [1]
  keyId := [1]
  aki := none
  basicCa := some true
  kuCa := true
  eku := false
  crl := false
  aia := false
  caRepo := true
  mft := true
  signedObj := false
  notify := false
  trim := false
  v4 := .blocks [⟨10, 20⟩]
  v6 := .missing
  asn := .blocks [⟨1, 5⟩] }
def exCa : Facts := { exTa with
  ski := [2]
  keyId := [2]
  aki := some [1]
  crl := true
  aia := true
  v4 := .blocks [⟨12, 15⟩]
  asn := .inherit }

example : validateTa exTa 15 = some ⟨[1], [⟨10, 20⟩], [], [⟨1, 5⟩]⟩ := by
  decide
example : validateCa exCa ⟨[1], [⟨10, 20⟩], [], [⟨1, 5⟩]⟩ 15 = some ⟨[2], [⟨12, 15⟩], [], [⟨1, 5⟩]⟩ := by
  simp [validateCa, inspectCa, inspectBasics, inspectCaBasics, inspectIssued, exCa, exTa, verifyIssuedCert,
    validityOk, X509.verifyAt, issuerClaim, verifyResources, verifyIssued, isEncompassed, isEncompassedAux]

/-! ### the same on octets

The theorems above speak about the record of facts a decoder extracted.  `Model/CertDer.lean` is that
decoder (tied to `Cert::decode` by the `certd` operations and by every C01 case, whose model verdict is
computed from the octets): for *every* octet string the statements hold with the facts it yields — the
hypothesis `ClaimsCanon` is discharged, the key identifier is the SHA-1 of the key bits read from the
octets, and the only input left outside is the verdict of the signature primitive. -/
section Octets
open Rpki.CertDer Rpki.Der

theorem claimsCanon_of_octets (b : List Nat) (d : Decoded) (hb : AllBytes b) (h : decodeCert b = some d)
    (router strict sigOk : Bool) : ClaimsCanon (toFacts d router strict sigOk) :=
  claimsCanon_of_decoded rfl rfl rfl (decodeCert_canon b d hb h)

/-- CA / EE certificates: if the octets decode and validation under a (canonical)
issuer succeeds, then the signature verdict was positive, the time is inside the window read from the
octets, the AKI read from them is the issuer's SKI, the SKI is the SHA-1 of the key bits, and the validated
resources are canonical and contained in the issuer's. -/
theorem accepted_octets (b : List Nat) (d : Decoded) (hb : AllBytes b) (hd : decodeCert b = some d)
    (strict sigOk : Bool) (i r : RC) (now : Int) (hi : RC.Canon i)
    (h : validateCa (toFacts d false strict sigOk) i now = some r ∨
         validateEe (toFacts d false strict sigOk) i now = some r) :
    sigOk = true ∧ d.validity.nb ≤ now ∧ now ≤ d.validity.na ∧ d.aki = some i.ski ∧
    d.ski = Sha.sha1N d.keyBits ∧ RC.Canon r ∧ RC.Sub r i := by
  have hs := validated_subset _ i r now (claimsCanon_of_octets b d hb hd false strict sigOk) hi h
  obtain ⟨a1, a2, a3, a4, a5⟩ : Issued (toFacts d false strict sigOk) i now :=
    h.elim (validateCa_sound _ i now r) (validateEe_sound _ i now r)
  exact ⟨a1, a2, a3, a4, a5, hs.1, hs.2⟩

/-- … for router certificates, whose key is a P-256 key -/
theorem accepted_octets_router (b : List Nat) (d : Decoded) (hd : decodeCert b = some d)
    (strict sigOk : Bool) (i : RC) (now : Int)
    (h : validateRouter (toFacts d true strict sigOk) i now = true) :
    sigOk = true ∧ d.validity.nb ≤ now ∧ now ≤ d.validity.na ∧ d.aki = some i.ski ∧
    d.ski = Sha.sha1N d.keyBits ∧ d.keyAlg = .ecP256 := by
  obtain ⟨a1, a2, a3, a4, a5⟩ := validateRouter_sound _ i now h
  refine ⟨a1, a2, a3, a4, a5, ?_⟩
  simp only [validateRouter, Bool.if_false_left, Bool.decide_eq_true, Bool.not_not, Bool.and_eq_true] at h
  have h0 := h.1
  simp only [inspectRouter, Bool.and_eq_true] at h0
  exact eq_of_beq h0.1.1.1.1.1.1.1.1.1.1.2

/-- … and for trust anchors -/
theorem accepted_octets_ta (b : List Nat) (d : Decoded) (hb : AllBytes b) (hd : decodeCert b = some d)
    (strict sigOk : Bool) (r : RC) (now : Int)
    (h : validateTa (toFacts d false strict sigOk) now = some r) :
    sigOk = true ∧ d.validity.nb ≤ now ∧ now ≤ d.validity.na ∧ d.ski = Sha.sha1N d.keyBits ∧
    d.v4 ≠ .inherit ∧ d.v6 ≠ .inherit ∧ d.asn ≠ .inherit ∧ RC.Canon r := by
  have hc := claimsCanon_of_octets b d hb hd false strict sigOk
  obtain ⟨a1, a2, a3, a4, a5, a6, a7, _⟩ := validateTa_sound _ now r h
  refine ⟨a1, a2, a3, a4, ?_, a6, a7, validateTa_canon _ now r hc h⟩
  intro e
  apply a5
  show shiftV4 d.v4 = .inherit
  rw [e]; rfl

/-- Any single non-conforming input rejects: a negative signature verdict, a time
outside the window read from the octets, an AKI other than the issuer's SKI, an SKI other than the SHA-1 of
the key bits. -/
theorem tampered_octets_rejected (b : List Nat) (d : Decoded) (_hd : decodeCert b = some d)
    (router strict sigOk : Bool) (i : RC) (now : Int)
    (hbad : sigOk = false ∨ now < d.validity.nb ∨ d.validity.na < now ∨ d.aki ≠ some i.ski ∨
            d.ski ≠ Sha.sha1N d.keyBits) :
    validateCa (toFacts d router strict sigOk) i now = none ∧
    validateEe (toFacts d router strict sigOk) i now = none ∧
    validateRouter (toFacts d router strict sigOk) i now = false :=
  single_fault_rejects _ i now hbad

end Octets

end Rpki.Props.C01
