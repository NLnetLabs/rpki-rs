/-
C08 — RTR server answers depend on the query bytes, not on how they arrive.
Only property theorems and non-vacuity examples; lemmas are in Rpki/Proofs/RtrServer*.lean.
-/
import Rpki.Proofs.RtrServerRefine
namespace Rpki.C08
open Rpki.RtrServer Rpki.Rtr Rpki.Consts

/-- The sequence of responses of a connection (Serial Notify PDUs removed) is exactly what the
specification answers to the concatenation of the bytes received — for every way of cutting the bytes
into chunks and every placement of notifications between them (including while a header or a
Serial Query payload is only partly received). -/
theorem framing_refines (src : Src) (evs : List Event) :
    respOnly (run src Conn.init evs) = serve src (chunksOf evs) := by
  have hq : Quiet src Conn.init := Or.inr (by unfold parseOne Conn.init; simp)
  rw [run_refines src evs Conn.init hq]
  unfold sem serve Conn.init
  simp

/-- Two deliveries of the same bytes — any fragmentation, any interleaving of notifications — get
the same responses: nothing is lost, duplicated, reordered or corrupted. -/
theorem delivery_independent (src : Src) (evs evs' : List Event) (h : chunksOf evs = chunksOf evs') :
    respOnly (run src Conn.init evs) = respOnly (run src Conn.init evs') := by
  rw [framing_refines, framing_refines, h]

/-- In particular the bytes delivered at once, without any notification, give the reference answer. -/
theorem whole_delivery (src : Src) (s : Bytes) :
    respOnly (run src Conn.init [.chunk s]) = serve src s := by
  rw [framing_refines]; simp [chunksOf]

/-- Every complete query gets exactly one response, and that response is not a Serial Notify. -/
theorem one_response_each (src : Src) (ver : Option Nat) (s : Bytes) (used : Nat) (out : Out) (w : Option Nat)
    (h : parseOne src ver s = .one used out w) :
    out.isNotify = false ∧ 8 ≤ used ∧ used ≤ s.length :=
  have ⟨a, b, c, _⟩ := (parseOne_stable src ver s []).1 used out w h
  ⟨a, b, c⟩

/-- A well-formed Reset Query is answered with the full data set, or with "no data available"
while the source is not ready. -/
theorem reset_answer (src : Src) (v sess : Nat) (hv : v ≤ 2) (hs : sess < 65536) (rest : Bytes) :
    parseOne src none (encHdr ⟨v, pduResetQuery, sess, sizeResetQuery⟩ ++ rest) =
      .one 8 (if src.ready then .data v src.session src.serial true else .error v 2 []) (some v) := by
  have hw : Hdr.WF ⟨v, pduResetQuery, sess, sizeResetQuery⟩ :=
    ⟨Nat.lt_of_le_of_lt hv (by decide), (by decide : pduResetQuery < 256), hs,
      (by decide : sizeResetQuery < 4294967296)⟩
  simp only [parseOne_encHdr src none _ hw]
  rw [if_neg (Nat.not_lt.2 hv : ¬ v > rtrMaxVersion), parseOne.body,
    if_neg (by decide : ¬ pduResetQuery = pduSerialQuery), if_pos rfl, if_neg (fun h => h rfl), answerReset]
  cases src.ready <;> rfl

/-- A query that is malformed or unsupported — wrong length, unknown PDU type, unsupported or
switched version — is answered with an Error PDU carrying the offending header. -/
theorem malformed_gets_error (src : Src) (h : Hdr) (hw : h.WF) (rest : Bytes) :
    (h.version > rtrMaxVersion →
      parseOne src none (encHdr h ++ rest) = .one 8 (.error rtrMaxVersion 4 (encHdr h)) none) ∧
    (∀ cur, cur ≠ h.version →
      parseOne src (some cur) (encHdr h ++ rest) = .one 8 (.error cur 8 (encHdr h)) (some cur)) ∧
    (h.version ≤ rtrMaxVersion → h.pdu ≠ pduSerialQuery → h.pdu ≠ pduResetQuery → h.pdu ≠ pduError →
      parseOne src none (encHdr h ++ rest) = .one 8 (.error h.version 3 (encHdr h)) (some h.version)) ∧
    (h.version ≤ rtrMaxVersion → h.pdu = pduResetQuery → h.length ≠ sizeResetQuery →
      parseOne src none (encHdr h ++ rest) = .one 8 (.error h.version 3 (encHdr h)) (some h.version)) ∧
    (h.version ≤ rtrMaxVersion → h.pdu = pduSerialQuery → h.length ≠ sizeSerialQuery →
      parseOne src none (encHdr h ++ rest) = .one 8 (.error h.version 3 (encHdr h)) (some h.version)) := by
  have hnone := parseOne_encHdr src none h hw rest
  simp only at hnone
  refine ⟨fun hv => ?_, fun cur hc => ?_, fun hv h1 h2 h3 => ?_, fun hv h1 h2 => ?_, fun hv h1 h2 => ?_⟩
  · rw [hnone, if_pos hv]
  · exact (parseOne_encHdr src (some cur) h hw rest).trans (if_pos hc)
  · rw [hnone, if_neg (Nat.not_lt.2 hv), parseOne.body, if_neg h1, if_neg h2, if_neg h3, take_encHdr]
  · rw [hnone, if_neg (Nat.not_lt.2 hv), parseOne.body, if_neg (h1 ▸ by decide), if_pos h1, if_pos h2,
      take_encHdr]
  · rw [hnone, if_neg (Nat.not_lt.2 hv), parseOne.body, if_pos h1, if_pos h2, take_encHdr]

/-- Notifications never alter, add or remove a response. -/
theorem notify_transparent (src : Src) (evs : List Event) :
    respOnly (run src Conn.init evs) =
      respOnly (run src Conn.init (evs.filter (fun e => e ≠ .notify))) := by
  apply delivery_independent
  induction evs with
  | nil => rfl
  | cons e es ih =>
    cases e with
    | chunk bs => simp [chunksOf, ih]
    | notify => simp [chunksOf, ih]
    | eof => simp [chunksOf]

-- the schedule that broke the unrepaired server
def exSrc : Src := ⟨true, 7, 5, [4, 5]⟩
def q : Bytes := [1, 2, 0, 0, 0, 0, 0, 8]   -- Reset Query, version 1
example : run exSrc Conn.init [.chunk (q.take 3), .notify, .chunk (q.drop 3 ++ q)] =
    [.serialNotify 0 7 5, .data 1 7 5 true, .data 1 7 5 true] := by decide +kernel
example : serve exSrc (q ++ q) = [.data 1 7 5 true, .data 1 7 5 true] := by decide +kernel

end Rpki.C08
