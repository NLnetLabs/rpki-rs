/-
C07 — RTR PDUs survive the wire unchanged; broken streams end in errors, not hangs.
Property theorems and non-vacuity examples (and `readAll`, the reader of a PDU sequence they speak
about); the lemmas are in Rpki/Proofs/RtrPduCodec.lean and RtrPduFaults.lean.
-/
import Rpki.Proofs.RtrPduFaults
import Rpki.Proofs.PrefixLemmas
namespace Rpki.C07
open Rpki.Rtr Rpki.Consts

/-- The length field equals the number of bytes written. -/
theorem length_field (it : Item) (hw : it.WF) : it.encode.length = it.hdr.length := by
  obtain ⟨used, hu, hl, -, -⟩ := readPayload_consumed _ it [] (readPayload_encode it hw [])
  rw [← hl, List.append_cancel_right hu]

/-- Every payload PDU and End of Data PDU, written and read back, yields the same PDU (item,
flags/action, version, session, serial, timing), and reading stops exactly at its end. -/
theorem decode_encode (it : Item) (hw : it.WF) (rest : Bytes) :
    readPayload (it.encode ++ rest) = .ok (it, rest) := readPayload_encode it hw rest

/-- read PDUs until the stream is empty (fuel bounds the number of PDUs) -/
def readAll : Nat → Bytes → Option (List Item)
  | 0, _ => none
  | fuel + 1, s =>
    if s = [] then some []
    else match readPayload s with
      | .ok (it, rest) => (readAll fuel rest).map (it :: ·)
      | .error _ => none

/-- A whole sequence of PDUs written back to back reads back as the same sequence. -/
theorem stream_roundtrip (ps : List Item) (hw : ∀ p ∈ ps, p.WF) :
    readAll (ps.length + 1) (ps.flatMap Item.encode) = some ps := by
  induction ps with
  | nil => rfl
  | cons p rest ih =>
    rw [List.length_cons, readAll, List.flatMap_cons,
      if_neg (fun e => by
        obtain ⟨body, hb, -⟩ := readItem_encode p (hw p List.mem_cons_self)
        rw [hb] at e; cases e),
      readPayload_encode p (hw p List.mem_cons_self)]
    simp only
    rw [ih (fun q hq => hw q (List.mem_cons_of_mem _ hq))]
    rfl

/-- `Payload::new` yields a well-formed PDU for every item that fits the wire … -/
theorem newPdu_wf (version flags : Nat) (p : PayloadItem) (hp : p.WF) (hv : version < 256) (hf : flags < 256)
    (hsize : match p with
      | .routerKey _ _ info => sizeRouterKeyFixed + info.length < 4294967296
      | .aspa _ ps => sizeAspaFixed + ps.length < 4294967296
      | _ => True) : (newPdu version flags p).WF := by
  cases p with
  | origin v4 addr plen ml asn =>
    cases v4 with
    | true =>
      obtain ⟨h1, h2, -, h4, h5⟩ := hp
      exact ⟨⟨hv, (by decide : pduIpv4Prefix < 256), (by decide : 0 < 65536),
          (by decide : sizeIpv4Prefix < 4294967296)⟩, rfl, rfl, hf, Nat.lt_of_le_of_lt h2 (by decide),
        Nat.lt_of_le_of_lt (getD_range h2 h4).2 (by decide), (by decide : 0 < 256), h1, h5⟩
    | false =>
      obtain ⟨h1, h2, -, h4, h5⟩ := hp
      exact ⟨⟨hv, (by decide : pduIpv6Prefix < 256), (by decide : 0 < 65536),
          (by decide : sizeIpv6Prefix < 4294967296)⟩, rfl, rfl, hf, Nat.lt_of_le_of_lt h2 (by decide),
        Nat.lt_of_le_of_lt (getD_range h2 h4).2 (by decide), (by decide : 0 < 256), h1, h5⟩
  | routerKey ski asn info =>
    exact ⟨⟨hv, (by decide : pduRouterKey < 256), Nat.mul_lt_mul_of_pos_right hf (by decide), hsize⟩,
      rfl, rfl, hp.1, hp.2⟩
  | aspa c ps =>
    exact ⟨⟨hv, (by decide : pduAspa < 256), Nat.mul_lt_mul_of_pos_right hf (by decide), hsize⟩,
      rfl, rfl, hp.2, hp.1⟩

/-- … and converting the PDU back gives the same action and item (origins compare by resolved
max length; a withdrawn ASPA carries no providers). -/
theorem payload_roundtrip (version flags : Nat) (p : PayloadItem) (hp : p.WF) (hf : flags < 256) :
    toPayload (newPdu version flags p) = some (Action.fromFlags flags, expectBack flags p) := by
  fun_cases newPdu version flags p
  case case1 addr plen ml asn =>
    obtain ⟨h1, h2, h3, h4, -⟩ := hp
    obtain ⟨f, hfal, -, t3, t4⟩ := (Prefix.falV4_cases (len := plen)).resolve_left
      fun h => Nat.not_le.2 h.1 h2
    have ⟨m1, m2⟩ := getD_range h2 h4
    rw [toPayload, Prefix.newV4Relaxed, hfal]
    simp only
    rw [Prefix.clearHost_aligned (Prefix.fromV4 addr) plen
        (Nat.mul_lt_mul_of_pos_right h1 (by decide) : addr * 2 ^ 96 < 2 ^ 32 * 2 ^ 96) h3,
      Prefix.mlpNew_ok ⟨f, _⟩ _ true t3 (le_of_eq_of_le t4 m1) m2]
    simp only [expectBack, Prefix.fromV4, Nat.mul_div_cancel _ (by decide : 0 < 2 ^ 96)]
  case case2 addr plen ml asn =>
    obtain ⟨h1, h2, h3, h4, -⟩ := hp
    obtain ⟨f, hfal, -, t3, t4⟩ := (Prefix.falV6_cases (len := plen)).resolve_left
      fun h => Nat.not_le.2 h.1 h2
    have ⟨m1, m2⟩ := getD_range h2 h4
    rw [toPayload, Prefix.newV6Relaxed, hfal]
    simp only
    rw [Prefix.clearHost_aligned addr plen h1 h3,
      Prefix.mlpNew_ok ⟨f, _⟩ _ false t3 (le_of_eq_of_le t4 m1) m2]
    rfl
  case case3 ski asn info =>
    rw [toPayload, Nat.mul_div_cancel _ (by decide : 0 < 256)]
    rfl
  case case4 c ps =>
    rw [toPayload]
    simp only [expectBack, Nat.mul_div_cancel _ (by decide : 0 < 256), Action.fromFlags]
    by_cases h : flags % 2 = 1 <;> simp [h]

/-- Payload types are gated by protocol version: origins from 0, router keys from 1, ASPA from 2. -/
theorem version_gating (version flags : Nat) (p : PayloadItem) :
    (newIfSupported version flags p).isSome ↔ p.minVersion ≤ version := by
  unfold newIfSupported
  by_cases h : p.minVersion > version
  · simp [h] <;> omega
  · simp [h] <;> omega

/-- A stream that ends anywhere inside a PDU ends the read with an end-of-file error. -/
theorem truncation (it : Item) (hw : it.WF) (k : Nat) (hk : k < it.encode.length) :
    readPayload (it.encode.take k) = .error .eof :=
  readPayload_prefix it.encode it [] (by rw [← readPayload_encode it hw [], List.append_nil]) k
    (length_field it hw ▸ hk)

/-- Whatever is accepted consumed exactly the announced number of bytes (≥ 8) of the input, and the
item carries the header that was on the wire: reading never runs past the PDU. -/
theorem bounded (s : Bytes) (it : Item) (rest : Bytes) (e : readPayload s = .ok (it, rest)) :
    ∃ used, s = used ++ rest ∧ used.length = it.hdr.length ∧ 8 ≤ used.length ∧ it.hdr = decHdr (s.take 8) :=
  readPayload_consumed s it rest e

/-- A header announcing an unknown payload type is rejected after the 8 header bytes. -/
theorem bad_type (h : Hdr) (hh : h.WF) (rest : Bytes)
    (hp : h.pdu ≠ pduIpv4Prefix ∧ h.pdu ≠ pduIpv6Prefix ∧ h.pdu ≠ pduRouterKey ∧ h.pdu ≠ pduAspa ∧ h.pdu ≠ pduEndOfData) :
    readPayload (encHdr h ++ rest) = .error .invalid := by
  rw [readPayload_encHdr h hh, readItem, if_neg hp.1, if_neg hp.2.1, if_neg hp.2.2.1, if_neg hp.2.2.2.1,
    if_neg hp.2.2.2.2]

/-- A wrong length for a fixed-size PDU, or a bad End-of-Data version, is rejected without reading on. -/
theorem bad_length_fixed (h : Hdr) (hh : h.WF) (rest : Bytes) :
    (h.pdu = pduIpv4Prefix → h.length ≠ sizeIpv4Prefix → readPayload (encHdr h ++ rest) = .error .invalid) ∧
    (h.pdu = pduIpv6Prefix → h.length ≠ sizeIpv6Prefix → readPayload (encHdr h ++ rest) = .error .invalid) ∧
    (h.pdu = pduEndOfData → 3 ≤ h.version → readPayload (encHdr h ++ rest) = .error .invalid) := by
  rw [readPayload_encHdr h hh]
  refine ⟨fun hp hl => ?_, fun hp hl => ?_, fun hp hv => ?_⟩
  · rw [readItem_v4 hp, readV4, readBody, if_pos hl]
  · rw [readItem_v6 hp, readV6, readBody, if_pos hl]
  · rw [readItem_eod hp, readEod, if_neg (by omega), if_neg (by omega)]

/-- `Error::skip_payload` terminates on every stream under every chunking of the reads: success
after exactly the announced payload when it is there, an end-of-file error when the stream ends
early, `invalid` when the announced length is smaller than a header. -/
theorem skip_terminates (h : Hdr) (s : Bytes) (sched : List Nat) :
    skipPayload (h.length + 2) h s sched =
      some (if h.length < 8 then .error .invalid
            else if h.length - 8 ≤ s.length then .ok (s.drop (h.length - 8)) else .error .eof) := by
  rw [skipPayload, show sizeHeader = 8 from rfl]
  by_cases hl : h.length < 8
  · rw [if_pos hl, if_pos hl]
  · rw [if_neg hl, if_neg hl]
    exact skipLoop_spec _ _ _ _ (Nat.lt_of_le_of_lt (Nat.sub_le _ _) (Nat.lt_add_of_pos_right (Nat.le.step Nat.le.refl)))

/-- Control PDUs: what `X::read` accepts is exactly a header with the right type and length
followed by the rest of the struct. -/
theorem control_roundtrip (pdu size : Nat) (h : Hdr) (hh : h.WF) (body rest : Bytes)
    (hp : h.pdu = pdu) (hl : h.length = size) (hb : body.length = size - sizeHeader) :
    readFixed pdu size (encHdr h ++ (body ++ rest)) = .ok (h, body, rest) := by
  rw [readFixed, readHdr_encHdr h hh]
  simp only
  rw [if_neg (fun hne => hne hp), if_neg (fun hne => hne hl), readExact_append _ _ _ hb]

/-- `X::try_read` is `X::read` on every stream whose first header is not an Error PDU's; on an Error PDU's header it
returns that header after exactly eight octets; it never fails where `read` succeeds. -/
theorem try_read_spec (pdu size : Nat) (s : Bytes) :
    (∀ h r, readHdr s = .ok (h, r) → h.pdu = pduError → tryReadFixed pdu size s = .ok (.inr h, r)) ∧
    (∀ h r, readHdr s = .ok (h, r) → h.pdu ≠ pduError →
      tryReadFixed pdu size s = (match readFixed pdu size s with
        | .ok (h', b, rest) => .ok (.inl (h', b), rest)
        | .error e => .error e)) ∧
    (∀ e, readHdr s = .error e → tryReadFixed pdu size s = .error e) := by
  refine ⟨fun h r hr hp => ?_, fun h r hr hp => ?_, fun e he => ?_⟩
  · rw [tryReadFixed, hr]; exact if_pos hp
  · rw [tryReadFixed, readFixed, hr]
    simp only
    rw [if_neg hp]
    by_cases h1 : h.pdu ≠ pdu
    · rw [if_pos h1, if_pos h1]
    rw [if_neg h1, if_neg h1]
    by_cases h2 : h.length ≠ size
    · rw [if_pos h2, if_pos h2]
    rw [if_neg h2, if_neg h2]
    cases readExact (size - sizeHeader) r <;> rfl
  · rw [tryReadFixed, he]

def exItem : Item := .v4 ⟨1, 4, 0, 20⟩ 1 24 24 0 3232235776 64496
example : exItem.WF := by
  refine ⟨⟨by decide, by decide, by decide, by decide⟩, rfl, rfl, ?_⟩
  decide
example : exItem.encode = [1, 4, 0, 0, 0, 0, 0, 20, 1, 24, 24, 0, 192, 168, 1, 0, 0, 0, 251, 240] := by decide +kernel
example : (match readPayload (exItem.encode.take 19) with | .error .eof => true | _ => false) = true := by decide +kernel
example : (match skipPayload 20 ⟨1, 10, 0, 16⟩ [1, 2, 3] [1, 1, 1] with | some (.error .eof) => true | _ => false) = true := by decide +kernel

end Rpki.C07
