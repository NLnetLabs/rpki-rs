/-
  C02 — signed objects are accepted iff digest, signature, EE certificate and coverage all hold.
  Property theorems over `Rpki/Model/SigObj.lean`, resting on C01 (EE validation) and C03 (containment); then the same
  on octets, over the decoder `CmsDer` in either mode, up to a whole run from the trust anchor's octets to a ROA or ASPA.
  `CaInput`, `Bytes` and the path lemmas of that run (`object_octets_under_trust_anchor`) are in `Proofs/ObjectPath.lean`.
-/
import Rpki.Proofs.SigObjAttrs
import Rpki.Proofs.ObjectPath
namespace Rpki.Props.C02
set_option autoImplicit false
open Rpki.Chain Rpki.Cert Rpki.SigObj Rpki.Der

/-- The signature input: for every length the parser admits, `encode_verify` is the DER encoding of
the attributes as a SET OF: tag `31`, DER definite length (short form below 128, `81 len` below
256, `82 hi lo` otherwise), then the attribute octets. -/
theorem encodeVerify_is_der (attrs : Bytes) (h : attrs.length < 65536) :
    encodeVerify attrs = some (tlv 0x31 attrs) := by
  unfold encodeVerify tlv encLen Rpki.Consts.encodeVerifyDerLength Rpki.Consts.encodeVerifyShort
    Rpki.Consts.encodeVerifyMid Rpki.Consts.encodeVerifyMax
  dsimp only
  by_cases h1 : attrs.length < 128
  · rw [if_pos h1, if_pos h1]; rfl
  rw [if_neg h1, if_neg h1, if_pos rfl]
  by_cases h2 : attrs.length < 256
  · rw [if_pos h2, if_pos h2, Nat.mod_eq_of_lt h2]; rfl
  rw [if_neg h2, if_neg h2, if_pos h, if_pos h, Nat.mod_eq_of_lt (Nat.div_lt_of_lt_mul h)]; rfl

theorem parseAttrs_len {strict : Bool} {attrs ct md : Bytes} {st : X509.Civil}
    (h : parseAttrs strict attrs = some (ct, md, st)) : attrs.length < 65536 :=
  Decidable.byContradiction fun hn => by
    rw [parseAttrs_too_long strict attrs (by omega)] at h
    cases h

theorem sigVerifies_iff (o : Obj) (hl : o.attrs.length < 65536) :
    sigVerifies o = true ↔ o.sigKeyOk = true ∧ o.sigInput = tlv 0x31 o.attrs := by
  unfold sigVerifies
  rw [encodeVerify_is_der o.attrs hl]
  simp

/-- A signed object validates under an issuer at a time iff its signed
attributes are exactly one content-type (equal to the eContentType), message-digest and
signing-time, the signer identifier is the EE certificate's subject key identifier, the
message-digest attribute is the digest of the content, the signature was made with the EE key over
the DER SET OF encoding of the attributes (whatever their size), and the EE certificate validates
under the issuer (C01). -/
theorem validateAt_iff (digest : Bytes → Bytes) (o : Obj) (i : RC) (now : Int) (r : RC) :
    validateAt digest o i now = some r ↔
      ∃ md st, parseAttrs true o.attrs = some (o.contentType, md, st) ∧
        o.sid = o.ee.ski ∧ digest o.content = md ∧
        o.sigKeyOk = true ∧ o.sigInput = tlv 0x31 o.attrs ∧
        validateEe o.ee i now = some r := by
  unfold validateAt decodeOk
  cases hp : parseAttrs true o.attrs with
  | none => exact ⟨nofun, nofun⟩
  | some t =>
    obtain ⟨ct, md, st⟩ := t
    have hv := sigVerifies_iff o (parseAttrs_len hp)
    dsimp only
    by_cases hct : ct = o.contentType
    · subst hct
      rw [if_neg (not_not.mpr rfl)]
      -- the chain of refusals is a conjunction of the conditions that let it pass
      simp only [Option.ite_none_left_eq_some, ne_eq, not_not, Bool.not_eq_true', Bool.not_eq_false, hv]
      exact ⟨fun ⟨a, b, c, d⟩ => ⟨md, st, rfl, a, b, c.1, c.2, d⟩,
        fun ⟨_, _, e, a, b, c1, c2, d⟩ => by cases e; exact ⟨a, b, ⟨c1, c2⟩, d⟩⟩
    · rw [if_pos hct]
      exact ⟨nofun, fun ⟨_, _, e, _⟩ => by cases e; exact absurd rfl hct⟩

theorem single_fault_rejects (digest : Bytes → Bytes) (o : Obj) (i : RC) (now : Int)
    (hbad : o.sigKeyOk = false ∨ o.sigInput ≠ tlv 0x31 o.attrs ∨ o.sid ≠ o.ee.ski ∨
            (∀ md st, parseAttrs true o.attrs = some (o.contentType, md, st) → digest o.content ≠ md) ∨
            validateEe o.ee i now = none) :
    validateAt digest o i now = none := by
  cases h : validateAt digest o i now with
  | none => rfl
  | some r =>
    obtain ⟨md, st, h1, h2, h3, h4, h5, h6⟩ := (validateAt_iff digest o i now r).1 h
    rcases hbad with hb | hb | hb | hb | hb
    · simp [h4] at hb
    · exact absurd h5 hb
    · exact absurd h2 hb
    · exact absurd h3 (hb md st h1)
    · simp [h6] at hb

/-- ROA coverage: given a validated EE certificate with canonical resources, the ROA check
succeeds exactly when every address of every listed prefix lies in the certificate's validated
resources of its family. -/
theorem roaVerify_iff (v4 v6 : List RoaAddr) (cert : RC) (hc : C01.RC.Canon cert)
    (h4 : ∀ a ∈ v4, a.lo ≤ a.hi) (h6 : ∀ a ∈ v6, a.lo ≤ a.hi) :
    roaVerify v4 v6 cert = true ↔
      (∀ a ∈ v4, ∀ x, a.lo ≤ x → x ≤ a.hi → mem cert.v4 x) ∧
      (∀ a ∈ v6, ∀ x, a.lo ≤ x → x ≤ a.hi → mem cert.v6 x) := by
  unfold roaVerify
  rw [Bool.and_eq_true]
  exact and_congr (coversAll_iff (fun a : RoaAddr => ⟨a.lo, a.hi⟩) _ v4 cert.v4 hc.1 h4)
    (coversAll_iff (fun a : RoaAddr => ⟨a.lo, a.hi⟩) _ v6 cert.v6 hc.2.1 h6)

/-- ASPA coverage: the customer AS must be in the certificate's validated AS resources, which
must not be inherited, and the certificate must carry no IP resources. -/
theorem aspaVerify_iff (customer : Nat) (ee : Facts) (cert : RC) (hc : C01.RC.Canon cert) :
    aspaVerify customer ee cert = true ↔
      mem cert.asn customer ∧ ee.asn ≠ .inherit ∧ ee.v4 = .missing ∧ ee.v6 = .missing := by
  unfold aspaVerify
  rw [Bool.and_eq_true, Bool.and_eq_true, C03.containsItem_iff maxAs cert.asn hc.2.2 customer]
  have p : ∀ c : Claim, isPresent c = false ↔ c = .missing := by
    intro c; cases c <;> simp [isPresent]
  simp only [bne_iff_ne, ne_eq, Bool.not_eq_true', Bool.or_eq_false_iff, p]
  constructor
  · rintro ⟨⟨a, b⟩, c, d⟩; exact ⟨a, b, c, d⟩
  · rintro ⟨a, b, c, d⟩; exact ⟨⟨a, b⟩, c, d⟩

/-- `Roa::process` succeeds exactly when the object validates, the CRL callback agrees and every
prefix is covered by the validated EE certificate. -/
theorem roaProcess_iff (digest : Bytes → Bytes) (o : Obj) (v4 v6 : List RoaAddr) (i : RC) (now : Int)
    (crlOk : Bool) (hf : C01.ClaimsCanon o.ee) (hi : C01.RC.Canon i)
    (h4 : ∀ a ∈ v4, a.lo ≤ a.hi) (h6 : ∀ a ∈ v6, a.lo ≤ a.hi) :
    roaProcess digest o v4 v6 i now crlOk = true ↔
      ∃ cert, validateAt digest o i now = some cert ∧ crlOk = true ∧
        (∀ a ∈ v4, ∀ x, a.lo ≤ x → x ≤ a.hi → mem cert.v4 x) ∧
        (∀ a ∈ v6, ∀ x, a.lo ≤ x → x ≤ a.hi → mem cert.v6 x) := by
  unfold roaProcess
  cases hv : validateAt digest o i now with
  | none => exact ⟨nofun, nofun⟩
  | some cert =>
    have hc := ((C01.Under.root hi).object hf hv).1
    dsimp only
    rw [Bool.and_eq_true, roaVerify_iff v4 v6 cert hc h4 h6]
    exact ⟨fun h => ⟨cert, rfl, h⟩, fun ⟨_, e, h⟩ => by cases e; exact h⟩

/-- the ROA's covered addresses are inside the *issuer's* resources too (C01 monotonicity) -/
theorem roa_within_issuer (digest : Bytes → Bytes) (o : Obj) (v4 v6 : List RoaAddr) (i : RC) (now : Int)
    (crlOk : Bool) (hf : C01.ClaimsCanon o.ee) (hi : C01.RC.Canon i)
    (h4 : ∀ a ∈ v4, a.lo ≤ a.hi) (h6 : ∀ a ∈ v6, a.lo ≤ a.hi)
    (h : roaProcess digest o v4 v6 i now crlOk = true) :
    (∀ a ∈ v4, ∀ x, a.lo ≤ x → x ≤ a.hi → mem i.v4 x) ∧ (∀ a ∈ v6, ∀ x, a.lo ≤ x → x ≤ a.hi → mem i.v6 x) := by
  obtain ⟨cert, hv, _, c4, c6⟩ := (roaProcess_iff digest o v4 v6 i now crlOk hf hi h4 h6).1 h
  have u := (C01.Under.root hi).object hf hv
  exact ⟨fun a ha x h1 h2 => u.2.1 x (c4 a ha x h1 h2), fun a ha x h1 h2 => u.2.2.1 x (c6 a ha x h1 h2)⟩


/-- The three required attributes are accepted in every one of their six
orders, with the same result (strict and relaxed mode), as long as the parser's own 16-bit size
condition holds. -/
theorem attrs_any_order (strict : Bool) (ct md tc : Bytes) (tag : X509.TimeTag) (st : X509.Civil)
    (hct : oidOk ct = true) (ht : X509.decodeTime tag tc = some st) (l : List Bytes)
    (hperm : l.Perm [attr oidContentType (tlv tagOid ct), attr oidMessageDigest (tlv tagOctetString md),
                     attr oidSigningTime (tlv (timeOctet tag) tc)])
    (hlen : l.flatten.length ≤ 0xFFFF) :
    parseAttrs strict l.flatten = some (ct, md, st) :=
  parseAttrs_any_order_of_length strict ct md tc tag st hct ht l hperm hlen

theorem attrs_missing_rejected (strict : Bool) (ct md tc : Bytes) (tag : X509.TimeTag) (i : Fin 3)
    (l : List Bytes)
    (hperm : l.Perm ([attr oidContentType (tlv tagOid ct), attr oidMessageDigest (tlv tagOctetString md),
                      attr oidSigningTime (tlv (timeOctet tag) tc)].eraseIdx i)) :
    parseAttrs strict l.flatten = none :=
  match i, hperm with
  | ⟨0, _⟩, hperm => parseAttrs_two_lacking strict .ct _ _ (by decide) (by decide) l hperm
  | ⟨1, _⟩, hperm => parseAttrs_two_lacking strict .md _ _ (by decide) (by decide) l hperm
  | ⟨2, _⟩, hperm => parseAttrs_two_lacking strict .st _ _ (by decide) (by decide) l hperm

/-- A second occurrence of content-type, message-digest or signing-time anywhere in the set is
rejected, whatever surrounds it. -/
theorem attrs_duplicate_rejected (strict : Bool) (k : Kind) (pre mid : List Bytes) (v1 v2 post : Bytes)
    (hpre : ∀ b ∈ pre, b.length < 2 ^ 32) (hmid : ∀ b ∈ mid, b.length < 2 ^ 32)
    (h1 : v1.length < 2 ^ 30) (h2 : v2.length < 2 ^ 30) :
    parseAttrs strict ((pre.map (tlv tagSeq)).flatten ++ attr k.oid v1 ++
       (mid.map (tlv tagSeq)).flatten ++ attr k.oid v2 ++ post) = none :=
  -- the parser never looks at the sizes: `hpre`, `hmid`, `h1`, `h2` are not needed
  parseAttrs_duplicate strict k pre mid (tlv tagSet v1) (tlv tagSet v2) post

/-- Attribute sets above 65535 octets are rejected at decoding time, so `encode_verify` never
reaches its `panic!`. -/
theorem attrs_too_long_rejected (strict : Bool) (attrs : Bytes) (h : attrs.length > 0xFFFF) :
    parseAttrs strict attrs = none := parseAttrs_too_long strict attrs h

/-- the 128-octet boundary: with the original length bytes (`31 02 00 80 …`) a correct signature
over the DER SET OF (`31 81 80 …`) could not verify; this instance is decided by evaluation -/
example : encodeVerify (List.replicate 128 0) = some (0x31 :: 0x81 :: 128 :: List.replicate 128 0) := by
  rw [encodeVerify, List.length_replicate]; rfl

/-! ### from the trust anchor's octets to the ROA's prefixes -/
section Pipeline
open Rpki.CmsDer Rpki.CertDer

/-- the coverage check only ever says yes to ranges inside the certificate's resources (no side condition on the
ranges: an empty range has no addresses) -/
theorem roaVerify_covers (v4 v6 : List RoaAddr) (cert : RC) (hc : C01.RC.Canon cert)
    (h : roaVerify v4 v6 cert = true) :
    (∀ a ∈ v4, ∀ x, a.lo ≤ x → x ≤ a.hi → mem cert.v4 x) ∧
    (∀ a ∈ v6, ∀ x, a.lo ≤ x → x ≤ a.hi → mem cert.v6 x) := by
  have _ := hc  -- not needed: the check says yes only inside the resources, canonical or not
  unfold roaVerify at h
  rw [Bool.and_eq_true] at h
  exact ⟨coversAll_sound (fun a : RoaAddr => ⟨a.lo, a.hi⟩) v4 cert.v4 h.1,
    coversAll_sound (fun a : RoaAddr => ⟨a.lo, a.hi⟩) v6 cert.v6 h.2⟩

/-- Trust anchor → CA* → ROA: whatever the octets and whatever the signature verdicts: if the
trust anchor validates, the chain validates under it and `Roa::process` accepts the ROA under the last CA, then
every address of every range read from the ROA's content is among the validated resources of the trust anchor,
and those are exactly the blocks read from the trust anchor's octets. -/
theorem roa_octets_within_trust_anchor
    (bta : Bytes) (dta : Decoded) (hbta : AllBytes bta) (hdta : decodeCert bta = some dta)
    (strictTa sigTa : Bool) (t0 : Int)
    (cas : List CaInput) (hcas : ∀ c ∈ cas, AllBytes c.octets ∧ decodeCert c.octets = some c.decoded)
    (b : Bytes) (o : SigObjD) (hb : AllBytes b) (hd : decodeSigObj b = some o)
    (sigKeyOk eeSigOk crlOk : Bool) (sigInput : Bytes) (now : Int)
    (v4 v6 : List RoaAddr) (hr : roaRanges o.content = some (v4, v6))
    (rta rca : RC)
    (h0 : validateTa (toFacts dta false strictTa sigTa) t0 = some rta)
    (h1 : C01.validateChain rta (cas.map CaInput.facts) = some rca)
    (h : roaProcess Sha.sha256N (toObj o sigKeyOk sigInput eeSigOk) v4 v6 rca now crlOk = true) :
    (∀ a ∈ v4, ∀ x, a.lo ≤ x → x ≤ a.hi → mem rta.v4 x) ∧
    (∀ a ∈ v6, ∀ x, a.lo ≤ x → x ≤ a.hi → mem rta.v6 x) ∧
    fromResources (toFacts dta false strictTa sigTa).v4 = some rta.v4 ∧
    fromResources (toFacts dta false strictTa sigTa).v6 = some rta.v6 := by
  have _ := hr  -- ties `v4`, `v6` to the ROA's content; the proof holds of any ranges
  unfold roaProcess at h
  cases hv : validateAt Sha.sha256N (toObj o sigKeyOk sigInput eeSigOk) rca now with
  | none => rw [hv] at h; cases h
  | some cert =>
    rw [hv] at h
    have u := object_octets_under_trust_anchor bta dta hbta hdta strictTa sigTa t0 cas hcas b o hb hd sigKeyOk eeSigOk
      sigInput now rta rca cert h0 h1 hv
    obtain ⟨c4, c6⟩ := roaVerify_covers v4 v6 cert u.1 (Bool.and_eq_true _ _ ▸ h).2
    obtain ⟨_, _, _, _, _, _, _, r4, r6, _⟩ := C01.validateTa_sound _ t0 rta h0
    exact ⟨fun a ha x x1 x2 => u.2.1 x (c4 a ha x x1 x2), fun a ha x x1 x2 => u.2.2.1 x (c6 a ha x x1 x2), r4, r6⟩

/-- Trust anchor → CA* → ASPA: the customer AS read from an accepted ASPA's content is among the AS
resources read from the trust anchor's octets; the ASPA's EE certificate carries no IP resources and does not inherit
its AS resources. -/
theorem aspa_octets_within_trust_anchor
    (bta : Bytes) (dta : Decoded) (hbta : AllBytes bta) (hdta : decodeCert bta = some dta)
    (strictTa sigTa : Bool) (t0 : Int)
    (cas : List CaInput) (hcas : ∀ c ∈ cas, AllBytes c.octets ∧ decodeCert c.octets = some c.decoded)
    (b : Bytes) (o : SigObjD) (hb : AllBytes b) (hd : decodeSigObj b = some o)
    (sigKeyOk eeSigOk crlOk : Bool) (sigInput : Bytes) (now : Int)
    (a : Roa.Aspa) (ha : Roa.decodeAspa Rpki.Consts.aspaObjMaxLen o.content = some a)
    (rta rca : RC)
    (h0 : validateTa (toFacts dta false strictTa sigTa) t0 = some rta)
    (h1 : C01.validateChain rta (cas.map CaInput.facts) = some rca)
    (h : aspaProcess Sha.sha256N (toObj o sigKeyOk sigInput eeSigOk) a.customer rca now crlOk = true) :
    mem rta.asn a.customer ∧ fromResources (toFacts dta false strictTa sigTa).asn = some rta.asn ∧
    (toFacts o.cert false true eeSigOk).asn ≠ .inherit ∧
    (toFacts o.cert false true eeSigOk).v4 = .missing ∧ (toFacts o.cert false true eeSigOk).v6 = .missing := by
  have _ := ha
  unfold aspaProcess at h
  cases hv : validateAt Sha.sha256N (toObj o sigKeyOk sigInput eeSigOk) rca now with
  | none => rw [hv] at h; cases h
  | some cert =>
    rw [hv] at h
    have u := object_octets_under_trust_anchor bta dta hbta hdta strictTa sigTa t0 cas hcas b o hb hd sigKeyOk eeSigOk
      sigInput now rta rca cert h0 h1 hv
    obtain ⟨m1, m2, m3, m4⟩ := (aspaVerify_iff a.customer _ cert u.1).1 (Bool.and_eq_true _ _ ▸ h).2
    obtain ⟨_, _, _, _, _, _, _, _, _, ra⟩ := C01.validateTa_sound _ t0 rta h0
    exact ⟨u.2.2.2 _ m1, ra, m2, m3, m4⟩

end Pipeline

/-! ### the same on octets, in either decoding mode

`Model/CmsDer.lean` reads a whole signed object from its octets (tied to `SignedObject::decode`, `Roa` /
`Aspa` / `Manifest::decode` by the `cmsd` operations and by every strict C02 case, whose model verdict is
computed from the octets).  For every octet string that decodes, acceptance implies the conditions of the
statement for what was read from those octets; the inputs left outside are the two verdicts of the
signature primitive and the octets the object's signature was made over.

Relying parties may decode signed objects in relaxed (BER) mode (`strict = false`).  `decodeSigObjM ber` is the
mode-parametrized decoder (`Gen/BerModel.lean`; `ber = false` is `decodeSigObj`, a theorem), tied to the library by
the `sor` / `roar` operations (objects re-written with BER's liberties outside the signed octets) and by `cmsdr`. -/
section EitherMode
open Rpki.CmsDer Rpki.CertDer

/-- what the strict attribute reader reads, the reader of either mode reads -/
theorem parseAttrs_any_mode (ber strict : Bool) (attrs : Bytes) (x : Bytes × Bytes × X509.Civil)
    (h : parseAttrs strict attrs = some x) : SigObj.parseAttrsM ber strict attrs = some x :=
  SigObj.parseAttrsM_of_der ber strict attrs x h

theorem claimsCanon_of_octets_either_mode (ber : Bool) (b : List Nat) (d : Decoded) (hb : AllBytes b)
    (h : decodeCertM ber b = some d) (router strict sigOk : Bool) :
    C01.ClaimsCanon (toFactsM ber d router strict sigOk) :=
  C01.claimsCanon_of_decoded rfl rfl rfl (decodeCert_canonM ber b d hb h)

/-- For a signed object decoded in either mode, acceptance implies every condition of the statement for what was read
from the octets: digest, signature input, signer identifier, and for the embedded EE certificate the positive signature
verdict, the window, the key identifiers, and validated resources that are canonical and contained in the issuer's. -/
theorem accepted_object_octets_either_mode (ber : Bool) (b : Bytes) (o : SigObjD) (hb : AllBytes b)
    (hd : decodeSigObjM ber b = some o)
    (sigKeyOk eeSigOk : Bool) (sigInput : Bytes) (i r : RC) (now : Int) (hi : C01.RC.Canon i)
    (h : validateAt Sha.sha256N (toObjM ber o sigKeyOk sigInput eeSigOk) i now = some r) :
    Sha.sha256N o.content = o.messageDigest ∧ sigKeyOk = true ∧ sigInput = tlv 0x31 o.attrs ∧
    o.sid = o.cert.ski ∧ eeSigOk = true ∧ o.cert.validity.nb ≤ now ∧ now ≤ o.cert.validity.na ∧
    o.cert.aki = some i.ski ∧ o.cert.ski = Sha.sha1N o.cert.keyBits ∧ C01.RC.Canon r ∧ C01.RC.Sub r i := by
  obtain ⟨md, st, h1, h2, h3, h4, h5, h6⟩ := (validateAt_iff _ _ i now r).1 h
  obtain ⟨_, e1, _⟩ := attrs_of_decoded (decodeSigObj_specM ber b o hb hd).1 h1
  obtain ⟨a1, a2, a3, a4, a5⟩ := C01.validateEe_sound _ i now r h6
  have u := (C01.Under.root hi).step (claimsCanon_sigObjM ber b o hb hd _ rfl rfl rfl) (Or.inr h6)
  exact ⟨e1 ▸ h3, h4, h5, h2, a1, a2, a3, a4, a5, u.1, u.2⟩

end EitherMode

section Iff
open Rpki.CmsDer Rpki.CertDer

/-- A decoded signed object validates exactly when the digest attribute read from the octets is the SHA-256 of the
content, the signature was made with the EE key over the DER SET OF the signed attributes, the signer identifier is the
EE certificate's subject key identifier, and the EE certificate read from the octets validates under the issuer (C01)
with the same validated resources. -/
theorem object_octets_accepted_iff (b : Bytes) (o : SigObjD) (hb : AllBytes b) (hd : decodeSigObj b = some o)
    (sigKeyOk eeSigOk : Bool) (sigInput : Bytes) (i r : RC) (now : Int) :
    validateAt Sha.sha256N (toObj o sigKeyOk sigInput eeSigOk) i now = some r ↔
    (Sha.sha256N o.content = o.messageDigest ∧ sigKeyOk = true ∧ sigInput = tlv 0x31 o.attrs ∧ o.sid = o.cert.ski ∧
     validateEe (toFacts o.cert false true eeSigOk) i now = some r) := by
  obtain ⟨hpa, _⟩ := decodeSigObj_spec b o hb hd
  rw [validateAt_iff]
  constructor
  · rintro ⟨md, st, h1, h2, h3, h4, h5, h6⟩
    obtain ⟨_, e1, _⟩ := attrs_of_decoded (ber := false) (by rw [SigObj.parseAttrsM_false]; exact hpa) h1
    exact ⟨e1 ▸ h3, h4, h5, h2, h6⟩
  · rintro ⟨h1, h2, h3, h4, h5⟩
    exact ⟨o.messageDigest, o.signingTime, hpa, h4, h1, h2, h3, h5⟩

end Iff

/-! ### strict decoding: the case `ber = false` of the either-mode theorem, and rejection as the contrapositive of the iff -/
section Octets
open Rpki.CmsDer Rpki.CertDer

theorem accepted_object_octets (b : Bytes) (o : SigObjD) (hb : AllBytes b) (hd : decodeSigObj b = some o)
    (sigKeyOk eeSigOk : Bool) (sigInput : Bytes) (i r : RC) (now : Int) (hi : C01.RC.Canon i)
    (h : validateAt Sha.sha256N (toObj o sigKeyOk sigInput eeSigOk) i now = some r) :
    Sha.sha256N o.content = o.messageDigest ∧ sigKeyOk = true ∧ sigInput = tlv 0x31 o.attrs ∧
    o.sid = o.cert.ski ∧ eeSigOk = true ∧ o.cert.validity.nb ≤ now ∧ now ≤ o.cert.validity.na ∧
    o.cert.aki = some i.ski ∧ o.cert.ski = Sha.sha1N o.cert.keyBits ∧ C01.RC.Canon r ∧ C01.RC.Sub r i := by
  rw [← decodeSigObjM_false] at hd
  rw [← toObjM_false] at h
  exact accepted_object_octets_either_mode false b o hb hd sigKeyOk eeSigOk sigInput i r now hi h

theorem tampered_object_octets (b : Bytes) (o : SigObjD) (hb : AllBytes b) (hd : decodeSigObj b = some o)
    (sigKeyOk eeSigOk : Bool) (sigInput : Bytes) (i : RC) (now : Int)
    (hbad : sigKeyOk = false ∨ sigInput ≠ tlv 0x31 o.attrs ∨ o.sid ≠ o.cert.ski ∨
            Sha.sha256N o.content ≠ o.messageDigest ∨ eeSigOk = false ∨ now < o.cert.validity.nb ∨
            o.cert.validity.na < now ∨ o.cert.aki ≠ some i.ski ∨ o.cert.ski ≠ Sha.sha1N o.cert.keyBits) :
    validateAt Sha.sha256N (toObj o sigKeyOk sigInput eeSigOk) i now = none :=
  Option.eq_none_iff_forall_ne_some.2 fun r h => by
    obtain ⟨h1, h2, h3, h4, h5⟩ := (object_octets_accepted_iff b o hb hd sigKeyOk eeSigOk sigInput i r now).1 h
    -- the last alternative holds the five that concern the EE certificate: those of `C01.single_fault_rejects`
    rcases hbad with e | e | e | e | e
    · rw [h2] at e; cases e
    · exact e h3
    · exact e h4
    · exact e h1
    · exact C01.not_issued (f := toFacts o.cert false true eeSigOk) e (C01.validateEe_sound _ i now r h5)

end Octets

end Rpki.Props.C02
