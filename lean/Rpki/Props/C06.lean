/-
C06 — RTR: after any completed exchange the client holds exactly the server's data.
Property theorems and non-vacuity examples, with the world of source and client they speak about (`Sync`,
`World`, `Ev`, `evolve`, `SrcWF`, `Inv`, `AllWF`) and the induction that carries `Inv` along a history
(`inv_update`, `inv_step`, `inv_run`); what a finished client step is comes from Rpki/Proofs/RtrSessionLemmas.lean.
-/
import Rpki.Proofs.RtrSessionLemmas
import Rpki.Proofs.NatLemmas
namespace Rpki.C06
open Rpki.RtrSession Rpki.Consts

/-- The gated diff takes the old restricted set to the new restricted set (ASPA keyed by customer). -/
theorem diff_exact (v : Nat) (old new : PSet) (ho : WFSet old) (hn : WFSet new) :
    SetEq (applyAll (restrict v old) (gate v (diffItems old new))) (restrict v new) := by
  intro x
  unfold diffItems
  rw [gate_append, gate_map, gate_map, applyAll_append]
  rw [mem_applyAll_map _ _ fun _ => wf_filter _ _ (wf_filter _ _ hn), mem_applyAll_map .withdraw _ nofun]
  simp only [true_and, reduceCtorEq, false_and, false_or, restrict, List.mem_filter, Bool.not_eq_true',
    decide_eq_true_eq, List.contains_eq_mem, List.any_eq_false, Bool.not_eq_true, decide_eq_false_iff_not]
  -- Left to show, with everything gated at `v`: `x` is announced (in `new`, not in `old`), or it is in `old`,
  -- no withdrawn record (in `old`, its key nowhere in `new`) has its key, and no announced record has its
  -- key; exactly when `x` is in `new`.
  constructor
  · rintro (⟨⟨h1, _⟩, h2⟩ | ⟨⟨⟨h1, h2⟩, h3⟩, h4⟩)
    · exact ⟨h1, h2⟩
    · -- `x` was not withdrawn, so the new set has a record `y` with its key; `y` was not announced,
      -- so it is in the old set too, and is `x`
      obtain ⟨y, hy, hxy⟩ : ∃ y ∈ new, x.sameKey y = true :=
        Classical.byContradiction fun hne => Bool.noConfusion <| (sameKey_refl x).symm.trans
          (h3 x ⟨⟨h1, fun y hy => Bool.eq_false_iff.2 fun e => hne ⟨y, hy, e⟩⟩, h2⟩)
      by_cases hyo : y ∈ old
      · exact ⟨ho x h1 y hyo hxy ▸ hy, h2⟩
      · have := h4 y ⟨⟨hy, hyo⟩, sameKey_minVersion x y hxy ▸ h2⟩
        rw [sameKey_symm, hxy] at this
        cases this
  · rintro ⟨h1, h2⟩
    by_cases hxo : x ∈ old
    · exact Or.inr ⟨⟨⟨hxo, h2⟩, fun w hw => hw.1.2 x h1⟩,
        fun a ha => Bool.eq_false_iff.2 fun hs => ha.1.2 (hn a ha.1.1 x h1 hs ▸ hxo)⟩
    · exact Or.inl ⟨⟨h1, hxo⟩, h2⟩

/-- A cache reset delivers exactly the restricted current set. -/
theorem reset_exact (v : Nat) (new : PSet) (hn : WFSet new) :
    SetEq (applyAll [] (gate v (new.map (fun y => (Action.announce, y))))) (restrict v new) := by
  intro x
  rw [gate_map, mem_applyAll_map _ _ fun _ => wf_filter _ _ hn]
  simp [restrict]

/-- the client's data is what the source had at the state the client remembers (if the source
still knows that state), restricted to protocol version `v` -/
def Sync (v : Nat) (c : Client) (src : Src) (d : PSet) : Prop :=
  ∀ sess ser old, c.state = some (sess, ser) → sess = src.session → src.lookup ser = some old →
    WFSet old ∧ SetEq d (restrict v old)

theorem clientReset_spec (c : Client) (cap : Nat) (src : Src) (c' : Client) (reset : Bool) (upd : Update)
    (d : PSet) (hw : WFSet src.cur) (h : clientReset c cap src = .ok c' reset upd) :
    SetEq (dataAfter d reset upd) (restrict c'.ver src.cur) ∧ c'.state = some (src.session, src.serial) ∧
    (1 ≤ c'.ver → c'.refresh = src.refresh) ∧ c'.ver ≤ cap ∧ reset = true := by
  obtain ⟨c1, hn, rfl, rfl, rfl⟩ := clientReset_ok h
  exact ⟨reset_exact _ _ hw, rfl, adopt_refresh _ _ _ _ _, (negotiate_eq_some c c1 cap hn).1, rfl⟩

/-- Whenever a client step finishes, the updates handed to the target, applied in
order to the previous data, yield exactly the source's current payload set restricted to the
negotiated version; the client's state is the source's state; from version 1 on its timing is the
source's. (`Sync` only constrains the previous data when the source can still produce a diff.) -/
theorem step_sync (c : Client) (cap : Nat) (src : Src) (c' : Client) (reset : Bool) (upd : Update) (d : PSet)
    (hw : WFSet src.cur) (h : clientStep c cap src = .ok c' reset upd) (hs : Sync c'.ver c src d) :
    SetEq (dataAfter d reset upd) (restrict c'.ver src.cur) ∧ c'.state = some (src.session, src.serial) ∧
    (1 ≤ c'.ver → c'.refresh = src.refresh) ∧ c'.ver ≤ cap := by
  obtain ⟨c1, hn, rfl, hk⟩ := clientStep_ok h
  refine ⟨?_, rfl, adopt_refresh _ _ _ _ _, (negotiate_eq_some c c1 cap hn).1⟩
  rcases hk with ⟨rfl, rfl⟩ | ⟨rfl, ser, old, hst, hl, rfl⟩
  · exact reset_exact _ _ hw
  · have ⟨wo, hd⟩ := hs _ ser old hst rfl hl
    intro x
    exact (applyAll_setEq _ d _ hd x).trans (diff_exact c1.ver old src.cur wo hw x)

/-- Against a peer that only speaks versions up to `cap` (below the client's
initial version), a fresh client that finishes a step has negotiated exactly `cap`. -/
theorem downgrade (c : Client) (cap : Nat) (src : Src) (c' : Client) (reset : Bool) (upd : Update)
    (hv : c.version = none) (hcap : cap < c.initial) (h : clientStep c cap src = .ok c' reset upd) :
    c'.ver = cap ∧ cap < rtrInitialVersion := by
  obtain ⟨c1, hn, rfl, -⟩ := clientStep_ok h
  obtain ⟨n1, -, -, rfl | ⟨-, -, h3, h4⟩⟩ := negotiate_eq_some c c1 cap hn
  · -- no downgrade took place: impossible, the client started above `cap`
    rw [Client.ver, hv] at n1
    exact absurd n1 (Nat.not_le.2 hcap)
  · exact ⟨congrArg (·.getD c1.initial) h4, h3⟩

structure World where
  src : Src
  client : Client
  data : PSet

inductive Ev
  | update (keep : Bool) (new : PSet)
  | step

/-- one event; `none` = the client step did not finish (the antecedent of the property is false) -/
def evolve (cap : Nat) (w : World) : Ev → Option World
  | .update keep new => some { w with src := w.src.update keep new }
  | .step =>
    match clientStep w.client cap w.src with
    | .ok c' reset upd => some ⟨w.src, c', dataAfter w.data reset upd⟩
    | .fail => none

def runEvs (cap : Nat) : World → List Ev → Option World
  | w, [] => some w
  | w, e :: es => match evolve cap w e with | none => none | some w' => runEvs cap w' es

/-- every set the source holds is well formed -/
def SrcWF (s : Src) : Prop := WFSet s.cur ∧ (∀ e ∈ s.hist, WFSet e.2) ∧ s.serial < 4294967296

/-- the invariant along a history in which the source has published `k` updates so far:
a client that remembers a state of this session got it from one of the last `k+1` serials, and its
data is in sync with what the source still remembers about that serial -/
def Inv (k : Nat) (w : World) : Prop :=
  SrcWF w.src ∧
  (∀ sess ser, w.client.state = some (sess, ser) → sess = w.src.session →
    ∃ j, j ≤ k ∧ ser = (w.src.serial + 4294967296 - j) % 4294967296) ∧
  (∀ v, w.client.version = some v → Sync v w.client w.src w.data) ∧
  (w.client.version = none → w.client.state = none)

theorem lookup_update (s : Src) (keep : Bool) (new old : PSet) (ser : Nat)
    (hne : ser ≠ (s.serial + 1) % 4294967296)
    (h : (s.update keep new).lookup ser = some old) : s.lookup ser = some old := by
  unfold Src.lookup Src.update at h
  simp only at h
  rw [if_neg hne] at h
  cases keep with
  | false => cases h
  | true =>
    rw [Src.lookup]
    by_cases h2 : ser = s.serial
    · rw [if_pos h2]
      rw [if_pos rfl, List.find?_cons_of_pos (by simp only [h2, decide_true])] at h
      exact h
    · rw [if_neg h2]
      rw [if_pos rfl,
        List.find?_cons_of_neg (by simp only [decide_eq_true_eq]; exact fun e => h2 e.symm)] at h
      exact h

theorem inv_update (k : Nat) (w : World) (keep : Bool) (new : PSet) (hi : Inv k w) (hn : WFSet new)
    (hk : k + 1 < 4294967296) : Inv (k + 1) { w with src := w.src.update keep new } := by
  obtain ⟨⟨w1, w2, w3⟩, i2, i3, i4⟩ := hi
  refine ⟨⟨hn, ?_, Nat.mod_lt _ (by decide)⟩, ?_, ?_, i4⟩
  · intro e he
    cases keep with
    | false => cases he
    | true =>
      rcases List.mem_cons.1 he with rfl | he
      · exact w1
      · exact w2 e he
  · intro sess ser hst hse
    obtain ⟨j, hj, rfl⟩ := i2 sess ser hst hse
    have hj' := Nat.lt_of_le_of_lt (Nat.succ_le_succ hj) hk
    exact ⟨j + 1, Nat.succ_le_succ hj, (Arith.serial_back_succ _ j w3 hj').symm⟩
  · intro v hv sess ser old hst hse hlk
    obtain ⟨j, hj, rfl⟩ := i2 sess ser hst hse
    have hj' := Nat.lt_of_le_of_lt (Nat.succ_le_succ hj) hk
    refine i3 v hv sess _ old hst hse (lookup_update w.src keep new old _ ?_ hlk)
    rw [← Arith.serial_back_succ _ j w3 hj']
    exact Arith.serial_back_ne _ _ (Nat.mod_lt _ (by decide)) (Nat.succ_pos j) hj'

theorem inv_step (k cap : Nat) (w w' : World) (hi : Inv k w) (h : evolve cap w .step = some w') :
    Inv k w' ∧ SetEq w'.data (restrict w'.client.ver w'.src.cur) ∧
    w'.client.state = some (w'.src.session, w'.src.serial) ∧
    (1 ≤ w'.client.ver → w'.client.refresh = w'.src.refresh) ∧ w'.client.ver ≤ cap := by
  unfold evolve at h
  cases hs : clientStep w.client cap w.src with
  | fail => rw [hs] at h; cases h
  | ok c' reset upd =>
    rw [hs] at h
    cases h
    obtain ⟨⟨w1, w2, w3⟩, i2, i3, i4⟩ := hi
    obtain ⟨c1, hn, hc', -⟩ := clientStep_ok hs
    -- the client's data was in sync at the version the step ends with: a version once negotiated
    -- is kept, and a client without one has no state
    have hsync : Sync c'.ver w.client w.src w.data := by
      cases hv : w.client.version with
      | none => intro sess ser old hst; rw [i4 hv] at hst; cases hst
      | some v =>
        rcases (negotiate_eq_some _ _ _ hn).2.2.2 with e | ⟨e, -⟩
        · rw [hc', e]
          show Sync w.client.ver _ _ _
          rw [Client.ver, hv]
          exact i3 v hv
        · rw [hv] at e; cases e
    have ⟨s1, s2, s3, s4⟩ := step_sync w.client cap w.src c' reset upd w.data w1 hs hsync
    have hcv : c'.version = some c'.ver := by rw [hc']; rfl
    refine ⟨⟨⟨w1, w2, w3⟩, ?_, ?_, ?_⟩, s1, s2, s3, s4⟩
    · intro sess ser hst _
      rw [s2] at hst; cases hst
      exact ⟨0, Nat.zero_le _, by rw [Nat.sub_zero, Nat.add_mod_right, Nat.mod_eq_of_lt w3]⟩
    · intro v hv sess ser old hst hse hlk
      rw [hcv] at hv; cases hv
      rw [s2] at hst; cases hst
      rw [Src.lookup, if_pos rfl] at hlk; cases hlk
      exact ⟨w1, s1⟩
    · intro hv; rw [hcv] at hv; cases hv

def updates : List Ev → Nat
  | [] => 0
  | .update .. :: es => updates es + 1
  | .step :: es => updates es

def AllWF : List Ev → Prop
  | [] => True
  | .update _ new :: es => WFSet new ∧ AllWF es
  | .step :: es => AllWF es

theorem inv_run (cap : Nat) : ∀ (evs : List Ev) (k : Nat) (w w' : World), Inv k w → AllWF evs →
    k + updates evs < 4294967296 → runEvs cap w evs = some w' → Inv (k + updates evs) w' := by
  intro evs
  induction evs with
  | nil => intro k w w' hi _ _ h; cases h; exact hi
  | cons e es ih =>
    intro k w w' hi hwf hk h
    rw [runEvs] at h
    cases e with
    | update keep new =>
      have hk' : k + 1 + updates es < 4294967296 := Nat.add_right_comm k 1 _ ▸ hk
      exact Nat.add_right_comm k 1 _ ▸ ih (k + 1) _ w'
        (inv_update k w keep new hi hwf.1 (Nat.lt_of_le_of_lt (Nat.le_add_right _ _) hk')) hwf.2 hk' h
    | step =>
      cases hs : evolve cap w .step with
      | none => rw [hs] at h; cases h
      | some wm => rw [hs] at h; exact ih k wm w' (inv_step k cap w wm hi hs).1 hwf hk h

/-- **Histories (partial: one session, in-sync or empty initial client).** Along any interleaving of
source updates (diffs retained or not, fewer than 2^32 of them) and client steps, every finished
step leaves the client with exactly the source's current data restricted to the negotiated version,
the source's state and — from version 1 on — the source's timing. Session changes and arbitrary
foreign initial states are covered by `step_sync` (they end in a cache reset), not by this
induction. -/
theorem history_sync_partial (cap : Nat) (evs : List Ev) (k : Nat) (w wm w' : World) (hi : Inv k w)
    (hwf : AllWF evs) (hk : k + updates evs < 4294967296)
    (h1 : runEvs cap w evs = some wm) (h2 : evolve cap wm .step = some w') :
    SetEq w'.data (restrict w'.client.ver w'.src.cur) ∧
    w'.client.state = some (w'.src.session, w'.src.serial) ∧
    (1 ≤ w'.client.ver → w'.client.refresh = w'.src.refresh) ∧ w'.client.ver ≤ cap :=
  (inv_step _ cap wm w' (inv_run cap evs k w wm hi hwf hk h1) h2).2

def exSrc : Src := ⟨7, 4294967295, [.origin 0, .key 0, .aspa 0 1], [], 1800⟩
def exClient : Client := ⟨none, none, 2, 3600⟩
example : Inv 0 ⟨exSrc, exClient, []⟩ := by
  refine ⟨⟨?_, nofun, by decide⟩, nofun, nofun, fun _ => rfl⟩
  unfold WFSet
  decide
example : clientStep exClient 1 exSrc =
    .ok ⟨some (7, 4294967295), some 1, 2, 1800⟩ true [(.announce, .origin 0), (.announce, .key 0)] := by decide +kernel
example : (exSrc.update true [.origin 1, .aspa 0 2]).serial = 0 := by decide

end Rpki.C06
