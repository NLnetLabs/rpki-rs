/-
C16 — RTR serial numbers compare and advance per RFC 1982.
Property theorems and non-vacuity examples (and `flip`, the swap of an ordering they speak about).
-/
import Rpki.Model.Serial
import Rpki.Proofs.NatLemmas
namespace Rpki.C16
open Rpki.Serial Rpki.Consts

/-- Comparison depends only on the difference modulo 2^32, with exactly the
RFC 1982 table: eq at 0, lt for 1..2^31-1 ahead, undefined at 2^31, gt beyond. -/
theorem pcmp_spec (a b : Nat) (ha : a < W) (hb : b < W) :
    pcmp a b = table (diff a b) := by
  unfold pcmp table diff serialHalfL serialHalfG
  rcases Nat.lt_trichotomy a b with l | rfl | l
  · rw [Arith.add_sub_mod_of_le (Nat.le_of_lt l) hb, if_neg (Nat.ne_of_lt l), if_pos l,
      if_neg (Nat.sub_ne_zero_of_lt l)]
    dsimp only
    generalize b - a = s
    rcases Nat.lt_trichotomy s 2147483648 with c | rfl | c
    · rw [if_pos c, if_pos c]
    · rfl
    · rw [if_neg (Nat.lt_asymm c), if_pos c, if_neg (Nat.lt_asymm c), if_neg (Nat.ne_of_gt c)]
  · rw [if_pos rfl, Nat.add_sub_cancel_left, Nat.mod_self, if_pos rfl]
  · rw [Arith.add_sub_mod_of_lt l ha, if_neg (Nat.ne_of_gt l), if_neg (Nat.lt_asymm l)]
    dsimp only
    -- with `s = a - b` the difference is the `t` with `s + t = 2^32`
    have hw : a - b < W := Nat.lt_of_le_of_lt (Nat.sub_le a b) ha
    obtain ⟨t, ht, ht0⟩ : ∃ t, a - b + t = W ∧ t ≠ 0 :=
      ⟨_, Nat.add_sub_of_le (Nat.le_of_lt hw), Nat.sub_ne_zero_of_lt hw⟩
    rw [Nat.sub_eq_of_eq_add' ht.symm, if_neg ht0]
    generalize a - b = s at ht
    unfold W at ht
    rcases Nat.lt_trichotomy s 2147483648 with c | rfl | c
    · have : 2147483648 < t := by omega
      rw [if_pos c, if_neg (Nat.lt_asymm this), if_neg (Nat.ne_of_gt this)]
    · rw [show t = 2147483648 by omega]
      rfl
    · rw [if_neg (Nat.lt_asymm c), if_pos c, if_pos (by omega : t < 2147483648)]

/-- Two pairs with the same difference compare the same. -/
theorem pcmp_diff_only (a b c d : Nat) (ha : a < W) (hb : b < W) (hc : c < W) (hd : d < W)
    (h : diff a b = diff c d) : pcmp a b = pcmp c d := by
  rw [pcmp_spec a b ha hb, pcmp_spec c d hc hd, h]

def flip : Option Ordering → Option Ordering
  | some .lt => some .gt
  | some .gt => some .lt
  | some .eq => some .eq
  | none => none

/-- Antisymmetry: swapping the arguments swaps lt/gt and keeps eq/undefined. -/
theorem pcmp_antisymm (a b : Nat) :
    pcmp b a = flip (pcmp a b) := by
  unfold pcmp serialHalfL serialHalfG
  -- both sides test the same difference against the same bound
  rcases Nat.lt_trichotomy a b with h | rfl | h
  · rw [if_neg (Nat.ne_of_gt h), if_neg (Nat.lt_asymm h), if_neg (Nat.ne_of_lt h), if_pos h,
      apply_ite flip, apply_ite flip]
    rfl
  · rw [if_pos rfl]; rfl
  · rw [if_neg (Nat.ne_of_lt h), if_pos h, if_neg (Nat.ne_of_gt h), if_neg (Nat.lt_asymm h),
      apply_ite flip, apply_ite flip]
    rfl

theorem pcmp_eq_iff (a b : Nat) :
    pcmp a b = some .eq ↔ a = b := by
  fun_cases pcmp a b
  case case1 h => exact iff_of_true rfl h
  all_goals exact iff_of_false nofun ‹¬a = b›

/-- Adding any n in 1..2^31-1 gives a strictly greater serial, even across the wrap. -/
theorem add_lt (a n : Nat) (ha : a < W) (h1 : 1 ≤ n) (h2 : n ≤ 2147483647) :
    ∃ s, add a n = some s ∧ s < W ∧ pcmp a s = some .lt := by
  have hs : (a + n) % W < W := Nat.mod_lt _ (by decide)
  refine ⟨(a + n) % W, ?_, hs, ?_⟩
  · unfold add serialAddMax; rw [if_pos h2]
  · have hd : diff a ((a + n) % W) = n :=
      Arith.add_mod_sub_mod ha (Nat.lt_of_le_of_lt h2 (by decide))
    rw [pcmp_spec a _ ha hs, hd]
    unfold table
    rw [if_neg (Nat.ne_of_gt h1), if_pos (Nat.lt_succ_of_le h2)]

/-- `add` rejects exactly the increments above 2^31-1 (the documented panic). -/
theorem add_guard (a n : Nat) : add a n = none ↔ 2147483647 < n := by
  unfold add serialAddMax
  split <;> simp <;> omega

theorem wire_length (a : Nat) : (wire a).length = 4 := rfl

/-- Wire conversion is lossless. -/
theorem unwire_wire (a : Nat) (ha : a < W) : unwire (wire a) = some a := by
  unfold unwire wire
  dsimp only
  rw [if_pos ⟨Nat.mod_lt _ (by decide), Nat.mod_lt _ (by decide), Nat.mod_lt _ (by decide),
    Nat.mod_lt _ (by decide)⟩]
  exact congrArg some (Arith.digits4_sum (b := 256) ha)

/-- Big-endian: the value is the base-256 number of the bytes, MSB first, and all are bytes. -/
theorem wire_bigendian (a : Nat) (ha : a < W) :
    (wire a).foldl (fun acc b => acc * 256 + b) 0 = a ∧ ∀ b ∈ wire a, b < 256 := by
  unfold wire
  constructor
  · rw [List.foldl, List.foldl, List.foldl, List.foldl, List.foldl, Nat.zero_mul, Nat.zero_add]
    exact Arith.digits4_horner (b := 256) ha
  · intro b hb
    simp only [List.mem_cons, List.mem_nil_iff, or_false] at hb
    rcases hb with h | h | h | h <;> subst h <;> exact Nat.mod_lt _ (by decide)

/-- Wire conversion is injective on serials (follows from losslessness). -/
theorem wire_injective (a b : Nat) (ha : a < W) (hb : b < W) (h : wire a = wire b) : a = b := by
  have := unwire_wire a ha
  rw [h, unwire_wire b hb] at this
  exact (Option.some.inj this).symm

-- Non-vacuity: the wrap case is a real instance of the hypotheses.
example : add 4294967295 1 = some 0 ∧ pcmp 4294967295 0 = some .lt := by decide
example : pcmp 0 2147483648 = none ∧ pcmp 2147483648 0 = none := by decide
example : wire 0x01020304 = [1, 2, 3, 4] := by decide

end Rpki.C16
