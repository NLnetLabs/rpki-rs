/-
C13 — prefixes, max-length prefixes and AS-number sets obey their value laws.
Property theorems and non-vacuity examples; the lemmas are in
Rpki/Proofs/{PrefixLemmas,PrefixOrder,AsnSetLemmas,PfxTextLemmas,PfxTextSound}.lean.
-/
import Rpki.Proofs.PrefixOrder
import Rpki.Proofs.AsnSetLemmas
import Rpki.Proofs.PfxTextSound
namespace Rpki.C13
open Rpki.Prefix Rpki.AsnSet Rpki.Consts

/-- The whole `FamilyAndLen` table (all 256 lengths): `new_v4` accepts exactly `≤ 32`, `new_v6`
exactly `≤ 128`, and `is_v4`/`len` read back what was stored. -/
theorem fal_table_all : ∀ n, n < 256 →
    ((falV4 n).isSome ↔ n ≤ 32) ∧ ((falV6 n).isSome ↔ n ≤ 128) ∧
    (∀ f, falV4 n = some f → falIsV4 f = true ∧ falLen f = n ∧ f < 256) ∧
    (∀ f, falV6 n = some f → falIsV4 f = false ∧ falLen f = n ∧ f < 256) := fal_table

/-- Strict IPv4 construction succeeds exactly for a length within the family and zero host bits,
and then yields exactly that address and length. -/
theorem newV4_ok_iff (a len : Nat) (hl : len < 256) (p : Pfx) :
    newV4 a len = .ok p ↔
      len ≤ 32 ∧ fromV4 a % 2 ^ (128 - len) = 0 ∧ p.bits = fromV4 a ∧ p.len = len ∧ p.isV4 = true := by
  unfold newV4
  rcases falV4_cases (len := len) with ⟨hgt, e⟩ | ⟨f, e, h32, h1, h2⟩ <;> rw [e]
  · exact iff_of_false nofun fun h => Nat.not_le.2 hgt h.1
  · dsimp only
    rw [ite_isHostZero]
    by_cases hz : fromV4 a % 2 ^ (128 - len) = 0
    · rw [if_pos hz]
      constructor
      · intro h; cases h; exact ⟨h32, hz, rfl, h2, h1⟩
      · rintro ⟨-, -, hb, hlen, hv4⟩
        obtain ⟨pf, pb⟩ := p
        -- for an IPv4 byte the length is the byte itself
        have e1 : pf = len := (falLen_of_v4 hv4).symm.trans hlen
        have e2 : f = len := (falLen_of_v4 h1).symm.trans h2
        rw [show pb = fromV4 a from hb, e1, e2]
    · rw [if_neg hz]
      exact iff_of_false nofun fun h => hz h.2.1

theorem newV6_ok_iff (a len : Nat) (hl : len < 256) (p : Pfx) :
    newV6 a len = .ok p → len ≤ 128 ∧ a % 2 ^ (128 - len) = 0 ∧ p.bits = a ∧ p.len = len ∧ p.isV4 = false := by
  unfold newV6
  rcases falV6_cases (len := len) with ⟨hgt, e⟩ | ⟨f, e, h128, h1, h2⟩ <;> rw [e]
  · nofun
  · dsimp only
    rw [ite_isHostZero]
    by_cases hz : a % 2 ^ (128 - len) = 0
    · rw [if_pos hz]
      intro h; cases h; exact ⟨h128, hz, rfl, h2, h1⟩
    · rw [if_neg hz]
      nofun

theorem newV6_ok_of (a len : Nat) (hl : len ≤ 128) (hz : a % 2 ^ (128 - len) = 0) :
    ∃ p, newV6 a len = .ok p := by
  unfold newV6
  rcases falV6_cases (len := len) with ⟨hgt, _⟩ | ⟨f, e, _⟩
  · exact absurd hl (Nat.not_le.2 hgt)
  · rw [e]
    dsimp only
    rw [ite_isHostZero, if_pos hz]
    exact ⟨_, rfl⟩

/-- Strict construction rejects exactly: a too long length (first) or non-zero host bits. -/
theorem newV6_err_iff (a len : Nat) (hl : len < 256) :
    (newV6 a len = .error .lenOverflow ↔ 128 < len) ∧
    (newV6 a len = .error .nonZeroHost ↔ len ≤ 128 ∧ a % 2 ^ (128 - len) ≠ 0) := by
  unfold newV6
  rcases falV6_cases (len := len) with ⟨hgt, e⟩ | ⟨f, e, h128, _⟩ <;> rw [e]
  · exact ⟨iff_of_true rfl hgt, iff_of_false nofun fun h => Nat.not_le.2 hgt h.1⟩
  · dsimp only
    rw [ite_isHostZero]
    by_cases hz : a % 2 ^ (128 - len) = 0
    · rw [if_pos hz]
      exact ⟨iff_of_false nofun (Nat.not_lt.2 h128), iff_of_false nofun fun h => h.2 hz⟩
    · rw [if_neg hz]
      exact ⟨iff_of_false nofun (Nat.not_lt.2 h128), iff_of_true rfl ⟨h128, hz⟩⟩

/-- Relaxed construction clears exactly the host bits: the result is aligned, does not exceed the
input, and is less than one block below it; it is idempotent and agrees with strict construction
whenever that succeeds. -/
theorem clearHost_spec (bits len : Nat) (hl : len ≤ 128) :
    clearHost bits len % 2 ^ hostBits len = 0 ∧ clearHost bits len ≤ bits ∧
    (bits < A → bits < clearHost bits len + 2 ^ hostBits len) ∧
    clearHost (clearHost bits len) len = clearHost bits len ∧
    (bits % 2 ^ hostBits len = 0 → bits < A → clearHost bits len = bits) := by
  unfold clearHost
  by_cases h0 : len = 0
  · subst h0
    have hA : A = 2 ^ hostBits 0 := by decide
    rw [if_pos rfl, ← hA]
    exact ⟨Nat.zero_mod _, Nat.zero_le _, fun h => (Nat.zero_add A).symm ▸ h, rfl,
      fun h1 h2 => ((Nat.mod_eq_of_lt h2).symm.trans h1).symm⟩
  · simp only [h0, if_false]
    have hP := Nat.two_pow_pos (hostBits len)
    refine ⟨Nat.mul_mod_left _ _, Nat.div_mul_le_self _ _, fun _ => Nat.lt_div_mul_add hP, ?_, ?_⟩
    · rw [Nat.mul_div_cancel _ hP]
    · intro h _; exact aligned_div_mul _ _ h

theorem newV6Relaxed_spec (a len : Nat) (hl : len < 256) :
    (len > 128 → newV6Relaxed a len = .error .lenOverflow) ∧
    (len ≤ 128 → ∃ p, newV6Relaxed a len = .ok p ∧ p.bits = clearHost a len ∧ p.len = len ∧ p.isV4 = false) := by
  unfold newV6Relaxed
  rcases falV6_cases (len := len) with ⟨hgt, e⟩ | ⟨f, e, h128, h1, h2⟩ <;> rw [e]
  · exact ⟨fun _ => rfl, fun h => absurd h (Nat.not_le.2 hgt)⟩
  · exact ⟨fun h => absurd h128 (Nat.not_le.2 h), fun _ => ⟨_, rfl, rfl, h2, h1⟩⟩

theorem newV4Relaxed_spec (a len : Nat) (hl : len < 256) :
    (len > 32 → newV4Relaxed a len = .error .lenOverflow) ∧
    (len ≤ 32 → ∃ p, newV4Relaxed a len = .ok p ∧ p.bits = clearHost (fromV4 a) len ∧ p.len = len ∧ p.isV4 = true) := by
  unfold newV4Relaxed
  rcases falV4_cases (len := len) with ⟨hgt, e⟩ | ⟨f, e, h32, h1, h2⟩ <;> rw [e]
  · exact ⟨fun _ => rfl, fun h => absurd h (Nat.not_le.2 hgt)⟩
  · exact ⟨fun h => absurd h32 (Nat.not_le.2 h), fun _ => ⟨_, rfl, rfl, h2, h1⟩⟩

/-- `MaxLenPrefix::new` succeeds exactly when prefix length ≤ max length ≤ family maximum. -/
theorem mlpNew_ok_iff (p : Pfx) (m : Nat) :
    (∃ r, mlpNew p (some m) = .ok r) ↔ p.len ≤ m ∧ m ≤ (if p.isV4 then 32 else 128) := by
  have hb : ((p.isV4 = true ∧ m > 32) ∨ m > 128) ↔ ¬ m ≤ (if p.isV4 then 32 else 128) := by
    cases p.isV4
    · exact ⟨fun h => h.elim (fun h => Bool.noConfusion h.1) Nat.not_le.2, fun h => .inr (Nat.not_le.1 h)⟩
    · exact ⟨fun h => Nat.not_le.2 (h.elim (·.2) (Nat.lt_trans (by decide))),
        fun h => .inl ⟨rfl, Nat.not_le.1 h⟩⟩
  unfold mlpNew
  by_cases c1 : (p.isV4 = true ∧ m > 32) ∨ m > 128
  · rw [if_pos c1]
    exact iff_of_false (fun ⟨_, h⟩ => nomatch h) fun h => hb.1 c1 h.2
  · rw [if_neg c1]
    by_cases c2 : p.len > m
    · rw [if_pos c2]
      exact iff_of_false (fun ⟨_, h⟩ => nomatch h) fun h => Nat.not_le.2 c2 h.1
    · rw [if_neg c2]
      exact iff_of_true ⟨_, rfl⟩ ⟨Nat.le_of_not_lt c2, Decidable.not_not.1 (mt hb.2 c1)⟩

theorem mlpNew_none (p : Pfx) : mlpNew p none = .ok ⟨p, none⟩ := rfl

/-- `saturating_new` always yields a valid max length (given a well-formed prefix). -/
theorem mlpSat_valid (p : Pfx) (hp : WF p) (m : Nat) :
    ∃ v, (mlpSat p (some m)).ml = some v ∧ p.len ≤ v ∧ v ≤ (if p.isV4 then 32 else 128) := by
  refine ⟨_, rfl, ?_⟩
  have hl : p.len ≤ if p.isV4 then 32 else 128 := by
    cases h4 : p.isV4
    · exact hp.len_le
    · exact hp.v4_len_le h4
  generalize p.len = l at hl ⊢
  dsimp only
  by_cases c1 : l > m
  · rw [if_pos c1]
    exact ⟨Nat.le_refl l, hl⟩
  · rw [if_neg c1]
    generalize p.isV4 = v4 at hl ⊢
    cases v4
    · rw [if_neg (fun h => Bool.noConfusion h.1)]
      by_cases c2 : m > 128
      · rw [if_pos c2]; exact ⟨hl, Nat.le_refl _⟩
      · rw [if_neg c2]; exact ⟨Nat.le_of_not_lt c1, Nat.le_of_not_lt c2⟩
    · by_cases c2 : m > 32
      · rw [if_pos ⟨rfl, c2⟩]; exact ⟨hl, Nat.le_refl _⟩
      · rw [if_neg (fun h => c2 h.2), if_neg (fun h => c2 (Nat.lt_trans (by decide) h))]
        exact ⟨Nat.le_of_not_lt c1, Nat.le_of_not_lt c2⟩

/-- `covers` holds exactly when the other prefix's address range is included. -/
theorem covers_iff_range (p q : Pfx) (hp : WF p) (hq : WF q) :
    covers p q = true ↔ p.isV4 = q.isV4 ∧ p.lo ≤ q.lo ∧ q.hi ≤ p.hi :=
  covers_iff_range' p q hp hq

/-- The order is the order of one natural-number key (family, last address, host-bit count). -/
theorem cmp_eq_compare_code (p q : Pfx) (hp : WF p) (hq : WF q) :
    cmp p q = compare (code p) (code q) := cmp_code p q hp hq

/-- The key is injective on well-formed prefixes, so `cmp = eq` exactly for equal prefixes. -/
theorem code_injective (p q : Pfx) (hp : WF p) (hq : WF q) (h : code p = code q) : p = q := by
  have hc := Nat.compare_eq_eq.2 h
  rw [compare_code p q hp hq, Ordering.then_eq_eq, Ordering.then_eq_eq, Nat.compare_eq_eq,
    Nat.compare_eq_eq, Nat.compare_eq_eq] at hc
  obtain ⟨hf, hhi, hs⟩ := hc
  have hfam : p.isV4 = q.isV4 := by
    revert hf; cases p.isV4 <;> cases q.isV4 <;> decide
  have hlen : p.len = q.len := hostBits_inj hp.len_le hq.len_le hs
  have hbits : p.bits = q.bits := by
    have := congrArg (· + 1) hhi
    rw [hp.hi_succ, hq.hi_succ, hlen] at this
    exact Nat.add_right_cancel this
  have hfal := fal_inj hp hq hfam hlen
  cases p; cases q
  rw [Pfx.mk.injEq]
  exact ⟨hfal, hbits⟩

theorem cmp_eq_iff (p q : Pfx) (hp : WF p) (hq : WF q) : cmp p q = .eq ↔ p = q := by
  rw [cmp_code p q hp hq, Nat.compare_eq_eq]
  exact ⟨code_injective p q hp hq, fun h => by rw [h]⟩

theorem cmp_antisymm (p q : Pfx) (hp : WF p) (hq : WF q) : cmp q p = (cmp p q).swap := by
  rw [cmp_code p q hp hq, cmp_code q p hq hp, Nat.compare_swap]

/-- Transitivity of `≤` (totality holds by construction of `Ordering`). -/
theorem cmp_trans (p q r : Pfx) (hp : WF p) (hq : WF q) (hr : WF r)
    (h1 : cmp p q ≠ .gt) (h2 : cmp q r ≠ .gt) : cmp p r ≠ .gt := by
  rw [cmp_code _ _ hp hq, Nat.compare_ne_gt] at h1
  rw [cmp_code _ _ hq hr, Nat.compare_ne_gt] at h2
  rw [cmp_code _ _ hp hr, Nat.compare_ne_gt]
  omega

theorem cmp_lt_trans (p q r : Pfx) (hp : WF p) (hq : WF q) (hr : WF r)
    (h1 : cmp p q = .lt) (h2 : cmp q r = .lt) : cmp p r = .lt := by
  rw [cmp_code _ _ hp hq, Nat.compare_eq_lt] at h1
  rw [cmp_code _ _ hq hr, Nat.compare_eq_lt] at h2
  rw [cmp_code _ _ hp hr, Nat.compare_eq_lt]
  omega

/-- A more specific prefix is placed before any prefix covering it. -/
theorem more_specific_first (p q : Pfx) (hp : WF p) (hq : WF q)
    (hc : covers q p = true) (hne : p ≠ q) : cmp p q = .lt := by
  have ⟨hf, hlo, hhi⟩ := (covers_iff_range q p hq hp).1 hc
  rw [cmp_code p q hp hq, compare_code p q hp hq, hf, Nat.compare_eq_eq.2 rfl, Ordering.eq_then,
    Ordering.then_eq_lt, Nat.compare_eq_lt, Nat.compare_eq_eq, Nat.compare_eq_lt]
  -- either the last address is smaller, or it is equal and `p` is the smaller block
  rcases Nat.lt_or_eq_of_le hhi with h | h
  · exact .inl h
  · refine .inr ⟨h, ?_⟩
    have h' := congrArg (· + 1) h
    rw [hp.hi_succ, hq.hi_succ] at h'
    rcases Nat.lt_trichotomy (hostBits p.len) (hostBits q.len) with l | e | g
    · exact l
    · refine absurd (code_injective p q hp hq ?_) hne
      unfold code
      rw [hf, h, hostBits_inj hp.len_le hq.len_le e]
    · exact absurd h' (Nat.ne_of_gt (Nat.add_lt_add_of_le_of_lt hlo (pow_lt_of_lt g)))

/-- `MaxLenPrefix` order is consistent with its (derived, structural) equality. -/
theorem mlpCmp_eq_iff (a b : Mlp) (ha : WF a.pfx) (hb : WF b.pfx) : mlpCmp a b = .eq ↔ a = b := by
  obtain ⟨ap, am⟩ := a
  obtain ⟨bp, bm⟩ := b
  rw [Mlp.mk.injEq, ← cmp_eq_iff ap bp ha hb]
  unfold mlpCmp
  dsimp only
  cases cmp ap bp
  · exact iff_of_false nofun nofun
  · cases am <;> cases bm
    · exact iff_of_true rfl ⟨rfl, rfl⟩
    · exact iff_of_false nofun nofun
    · exact iff_of_false nofun nofun
    · rw [Nat.compare_eq_eq, Option.some.injEq]
      exact ⟨fun h => ⟨rfl, h.symm⟩, fun h => h.2.symm⟩
  · exact iff_of_false nofun nofun

/-- Route origins compare lexicographically by prefix, effective max length and AS number. -/
theorem originCmp_lex (a b : Origin) :
    originCmp a b = (cmp a.mlp.pfx b.mlp.pfx).then ((compare a.mlp.resolved b.mlp.resolved).then (compare a.asn b.asn)) := by
  unfold originCmp
  cases cmp a.mlp.pfx b.mlp.pfx
  · rfl
  · cases compare a.mlp.resolved b.mlp.resolved <;> rfl
  · rfl

/-- Origin order is consistent with origin equality … -/
theorem originCmp_eq_iff (a b : Origin) (ha : WF a.mlp.pfx) (hb : WF b.mlp.pfx) :
    originCmp a b = .eq ↔ originEq a b = true := by
  unfold originEq
  rw [originCmp_lex, Ordering.then_eq_eq, Ordering.then_eq_eq, cmp_eq_iff _ _ ha hb, Nat.compare_eq_eq,
    Nat.compare_eq_eq, Bool.and_eq_true, Bool.and_eq_true, decide_eq_true_eq, decide_eq_true_eq,
    decide_eq_true_eq, and_assoc]

/-- … and equal origins feed identical word sequences to the hasher. -/
theorem originHash_of_eq (a b : Origin) (h : originEq a b = true) : originHashKey a = originHashKey b := by
  unfold originEq at h
  simp only [Bool.and_eq_true, decide_eq_true_eq] at h
  unfold originHashKey
  rw [h.1.1, h.1.2, h.2]

/-- A set built from any items is sorted, duplicate-free and has exactly those items.
(`asnSetDedup` is read from the source: whether `from_iter` dedups after sorting.) -/
theorem fromIter_spec (xs : List Nat) :
    StrictSorted (fromIter asnSetDedup xs) ∧ ∀ x, x ∈ fromIter asnSetDedup xs ↔ x ∈ xs := by
  have hd : asnSetDedup = true := rfl
  unfold fromIter
  simp only [hd, if_true]
  exact ⟨strictSorted_dedup _ (sorted_sort xs), fun x => by rw [mem_dedup, mem_sort]⟩

theorem union_is_union (l r : List Nat) (hl : StrictSorted l) (hr : StrictSorted r) :
    StrictSorted (union l r) ∧ ∀ x, x ∈ union l r ↔ x ∈ l ∨ x ∈ r := union_spec l r hl hr

theorem inter_is_inter (l r : List Nat) (hl : StrictSorted l) (hr : StrictSorted r) :
    StrictSorted (inter l r) ∧ ∀ x, x ∈ inter l r ↔ x ∈ l ∧ x ∈ r := inter_spec l r hl hr

theorem diff_is_diff (l r : List Nat) (hl : StrictSorted l) (hr : StrictSorted r) :
    StrictSorted (diff l r) ∧ ∀ x, x ∈ diff l r ↔ x ∈ l ∧ x ∉ r := diff_spec l r hl hr

theorem symDiff_is_symDiff (l r : List Nat) (hl : StrictSorted l) (hr : StrictSorted r) :
    StrictSorted (symDiff l r) ∧ ∀ x, x ∈ symDiff l r ↔ (x ∈ l ∧ x ∉ r) ∨ (x ∈ r ∧ x ∉ l) :=
  symDiff_spec l r hl hr

/-- Whatever one of the four constructors makes (strict or relaxed, either family,
any address and any length it admits), `Display` writes a text that both `Prefix::from_str` and
`Prefix::from_str_relaxed` read back as the same value — address text as the standard library
writes and reads it (dotted quad; RFC 5952 with the IPv4-mapped form), `/`, decimal length. -/
theorem prefix_text_roundtrip (a len : Nat) (hl : len < 256) (p : Pfx)
    (h : (a < 2 ^ 32 ∧ (newV4 a len = .ok p ∨ newV4Relaxed a len = .ok p)) ∨
         (a < 2 ^ 128 ∧ (newV6 a len = .ok p ∨ newV6Relaxed a len = .ok p))) :
    PfxText.parsePfx false (PfxText.fmtPfx p) = .ok p ∧
    PfxText.parsePfx true (PfxText.fmtPfx p) = .ok p := by
  have hw : PfxText.PfxWF p := by
    rcases h with ⟨ha, h | h⟩ | ⟨ha, h | h⟩
    · exact PfxText.wf_of_newV4 a len p ha h
    · exact PfxText.wf_of_newV4Relaxed a len p ha h
    · exact PfxText.wf_of_newV6 a len p ha h
    · exact PfxText.wf_of_newV6Relaxed a len p ha h
  exact ⟨PfxText.parsePfx_fmt false p hw, PfxText.parsePfx_fmt true p hw⟩

/-- Text cannot make an invalid prefix. Whatever `Prefix::from_str` (strict) or `from_str_relaxed`
accepts is the value the strict / relaxed constructor returns for the address and the `u8` length read
from the text — so, by the constructor theorems above, its length lies within its family and its host
bits are zero. -/
theorem parsed_prefix_is_constructed (relaxed : Bool) (s : ResText.Bytes) (p : Pfx)
    (h : PfxText.parsePfx relaxed s = .ok p) :
    ∃ v4 a len, len < 256 ∧ PfxText.pfxNew relaxed (v4, a) len = .ok p := by
  obtain ⟨_, ⟨v4, a⟩, len, _, hl, hp⟩ := PfxText.parsePfx_inv relaxed s p h
  exact ⟨v4, a, len, hl, hp⟩

/-- Parsed prefixes are well-formed, and their canonical text is stable. Every value the strict or
the relaxed text reader returns has its address inside its family (the address readers return less than
2^32 resp. 2^128: `parseV4_lt`, `parseV6_lt`), clear host bits and the family/length octet of the
constructors; writing it and reading the text again — with either reader — gives the same value. -/
theorem parsed_prefix_wf (r r' : Bool) (s : ResText.Bytes) (p : Pfx) (h : PfxText.parsePfx r s = .ok p) :
    PfxText.PfxWF p ∧ PfxText.parsePfx r' (PfxText.fmtPfx p) = .ok p :=
  ⟨PfxText.parsePfx_wf r s p h, PfxText.parsePfx_fmt r' p (PfxText.parsePfx_wf r s p h)⟩

/-- Two constructed prefixes with the same text are the same prefix. -/
theorem prefix_text_injective (p q : Pfx) (hp : PfxText.PfxWF p) (hq : PfxText.PfxWF q)
    (h : PfxText.fmtPfx p = PfxText.fmtPfx q) : p = q := by
  have h1 := PfxText.parsePfx_fmt false p hp
  rw [h, PfxText.parsePfx_fmt false q hq] at h1
  cases h1; rfl

/-- Every value `MaxLenPrefix::new` returns for a constructed prefix is
written (`prefix` or `prefix-maxlen`) as a text `MaxLenPrefix::from_str` reads back as that value. -/
theorem maxlen_text_roundtrip (m : Mlp) (hp : PfxText.PfxWF m.pfx) (hm : mlpNew m.pfx m.ml = .ok m) :
    PfxText.parseMlp (PfxText.fmtMlp m) = .ok m := PfxText.parseMlp_fmt m hp hm

/-- Parsed max-length prefixes obey the max-length rule. What `MaxLenPrefix::from_str` accepts is a
value `MaxLenPrefix::new` returns for a well-formed prefix (so prefix length ≤ max length ≤ family
maximum, by `mlpNew_ok_iff`), and it is read back from its own text. -/
theorem parsed_maxlen_sound (s : ResText.Bytes) (m : Mlp) (h : PfxText.parseMlp s = .ok m) :
    PfxText.PfxWF m.pfx ∧ mlpNew m.pfx m.ml = .ok m ∧ PfxText.parseMlp (PfxText.fmtMlp m) = .ok m := by
  obtain ⟨t, p, ml, hp, hm⟩ := PfxText.parseMlp_inv s m h
  have e := mlpNew_fields p ml m hm
  subst e
  have hw := PfxText.parsePfx_wf false t p hp
  exact ⟨hw, hm, PfxText.parseMlp_fmt _ hw hm⟩

/-- `AS<decimal>` parses back to the number, for every 32-bit number. -/
theorem asn_text_roundtrip (n : Nat) (h : n < 2 ^ 32) :
    ResText.parseAsn (PfxText.fmtAsn n) = some n := ResText.parseAsn_fmt n h

-- 10.0.0.0/8 and 10.1.0.0/16 are well-formed; the /8 covers the /16 and sorts after it.
example : WF ⟨8, 10 * 2 ^ 120⟩ ∧ WF ⟨16, 10 * 2 ^ 120 + 2 ^ 112⟩ := by decide
example : covers ⟨8, 10 * 2 ^ 120⟩ ⟨16, 10 * 2 ^ 120 + 2 ^ 112⟩ = true ∧
    Prefix.cmp ⟨16, 10 * 2 ^ 120 + 2 ^ 112⟩ ⟨8, 10 * 2 ^ 120⟩ = .lt := by decide
example : (newV4 (10 * 2 ^ 24) 8).toOption = some ⟨8, 10 * 2 ^ 120⟩ := by decide
example : fromIter true [3, 1, 3, 2, 1] = [1, 2, 3] := by decide
example : StrictSorted [1, 5] ∧ union [1, 5] [2, 5] = [1, 2, 5] := by simp [StrictSorted, union]

-- "10.0.0.0/8" is what the formatter writes for 10.0.0.0/8, and the hypotheses of the text theorems hold for it
example : PfxText.fmtPfx ⟨8, 10 * 2 ^ 120⟩ = [49, 48, 46, 48, 46, 48, 46, 48, 47, 56] := by decide
example : newV4 (10 * 2 ^ 24) 8 = .ok ⟨8, 10 * 2 ^ 120⟩ ∧ mlpNew ⟨8, 10 * 2 ^ 120⟩ (some 24) = .ok ⟨⟨8, 10 * 2 ^ 120⟩, some 24⟩ := by decide

end Rpki.C13
