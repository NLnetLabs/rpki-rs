/-
C03 — resource sets behave as exact, canonical sets of addresses / AS numbers.
Property theorems and non-vacuity examples; the lemmas are in Rpki/Proofs/Chain*.lean (set algebra),
AsDerCodec / IpDerCodec (RFC 3779 in DER) and ResText* (text form).
-/
import Rpki.Proofs.IpDerCodec
import Rpki.Proofs.ResTextSets
import Rpki.Proofs.ChainOps
import Rpki.Model.ResSetOps
import Rpki.Proofs.ProvMsgLemmas
namespace Rpki.C03
open Rpki.Chain

/-- Per-item membership agrees with the denoted set. -/
theorem containsItem_iff (M : Nat) (c : List Blk) (hc : Canon M c) (x : Nat) :
    containsItem c x = true ↔ mem c x := by
  induction c with
  | nil => exact ⟨nofun, fun h => absurd h (mem_nil x)⟩
  | cons b bs ih =>
    rw [containsItem]
    by_cases hgt : b.lo > x
    · rw [if_pos hgt]
      exact ⟨nofun, fun h => absurd (canon_head_le hc h) (Nat.not_le.2 hgt)⟩
    · rw [if_neg hgt]
      by_cases hin : b.lo ≤ x ∧ x ≤ b.hi
      · rw [if_pos hin]
        exact ⟨fun _ => mem_cons.2 (Or.inl hin), fun _ => rfl⟩
      · rw [if_neg hin, ih (canon_cons.1 hc).2.2, mem_cons]
        exact ⟨Or.inr, fun h => h.resolve_left hin⟩

/-- The canonical form is unique: two canonical chains denoting the same set are identical, … -/
theorem canon_unique (M : Nat) (a b : List Blk) (ha : Canon M a) (hb : Canon M b)
    (h : ∀ x, mem a x ↔ mem b x) : a = b := canon_unique' M a b ha hb h

/-- … so `==` (block-wise comparison) is equality of the denoted sets. -/
theorem eq_iff_same_set (M : Nat) (a b : List Blk) (ha : Canon M a) (hb : Canon M b) :
    chainEq a b = true ↔ ∀ x, mem a x ↔ mem b x := by
  rw [chainEq_iff']
  constructor
  · intro h x; rw [h]
  · exact canon_unique' M a b ha hb

/-- Any finite sequence of well-formed blocks — sorted or not, overlapping,
adjacent, duplicated, touching 0 or the maximum — collects into a canonical chain that denotes
exactly the union of the blocks. -/
theorem fromIter_canon_den (M : Nat) (bs : List Blk) (h : ∀ b ∈ bs, b.lo ≤ b.hi ∧ b.hi ≤ M) :
    Canon M (fromIter M bs) ∧ ∀ x, mem (fromIter M bs) x ↔ ∃ b ∈ bs, b.lo ≤ x ∧ x ≤ b.hi :=
  fromIter_spec' M bs h

/-- a canonical chain is a fixed point of `from_iter` -/
theorem fromIter_canon_id (M : Nat) (c : List Blk) (hc : Canon M c) : fromIter M c = c :=
  Chain.fromIter_canon_id M c hc

/-- Containment (`is_encompassed`, `contains`, `verify_covered`) is set inclusion. -/
theorem isEncompassed_iff (M : Nat) (a b : List Blk) (ha : Canon M a) (hb : Canon M b) :
    isEncompassed a b = true ↔ ∀ x, mem a x → mem b x := isEncompassed_iff' M a b ha hb

/-- `trim`: `ok` means inclusion; otherwise the result is the canonical chain of the intersection. -/
theorem trim_spec (M : Nat) (a b : List Blk) (ha : Canon M a) (hb : Canon M b) :
    match trim M a b with
    | .ok () => ∀ x, mem a x → mem b x
    | .error r => Canon M r ∧ ∀ x, mem r x ↔ (mem a x ∧ mem b x) := trim_spec' M a b ha hb

/-- Difference is canonical and denotes the set difference. -/
theorem difference_spec (M : Nat) (a b : List Blk) (ha : Canon M a) (hb : Canon M b) :
    Canon M (difference a b) ∧ ∀ x, mem (difference a b) x ↔ (mem a x ∧ ¬ mem b x) :=
  difference_spec' M a b ha hb

/-- Union is canonical and denotes the set union. -/
theorem union_spec (M : Nat) (a b : List Blk) (ha : Canon M a) (hb : Canon M b) :
    Canon M (union M a b) ∧ ∀ x, mem (union M a b) x ↔ (mem a x ∨ mem b x) := union_spec' M a b ha hb

/-- Intersection is canonical and denotes the set intersection. -/
theorem inter_spec (M : Nat) (a b : List Blk) (ha : Canon M a) (hb : Canon M b) :
    Canon M (inter M a b) ∧ ∀ x, mem (inter M a b) x ↔ (mem a x ∧ mem b x) := inter_spec' M a b ha hb

/-- Whatever `verify_issued` returns is canonical and a subset of the issuer's set:
the claim itself when covered under the refuse policy (an error exactly when it is not covered), the
intersection under the trimming policy, the issuer's set for `inherit`, the empty set for `missing`. -/
theorem verifyIssued_subset (M : Nat) (issuer : List Blk) (hi : Canon M issuer) (claim : Claim) (trimMode : Bool)
    (hc : ∀ c, claim = .blocks c → Canon M c) :
    match verifyIssued M issuer claim trimMode with
    | some r =>
      Canon M r ∧ (∀ x, mem r x → mem issuer x) ∧
      (match claim with
       | .missing => r = []
       | .inherit => r = issuer
       | .blocks c => if trimMode then ∀ x, mem r x ↔ (mem c x ∧ mem issuer x)
                      else r = c ∧ ∀ x, mem c x → mem issuer x)
    | none => ∃ c, claim = .blocks c ∧ trimMode = false ∧ ¬ ∀ x, mem c x → mem issuer x := by
  cases claim with
  | missing => exact ⟨canon_nil M, fun x hx => absurd hx (mem_nil x), rfl⟩
  | inherit => exact ⟨hi, fun _ hx => hx, rfl⟩
  | blocks c =>
    have hcc := hc c rfl
    unfold verifyIssued
    cases trimMode with
    | true =>
      obtain ⟨h1, h2⟩ := inter_spec' M c issuer hcc hi
      simp only [if_true]
      exact ⟨h1, fun x hx => ((h2 x).1 hx).2, h2⟩
    | false =>
      have he := isEncompassed_iff' M c issuer hcc hi
      simp only [Bool.false_eq_true, if_false]
      by_cases h : isEncompassed c issuer = true
      · rw [if_pos h]
        exact ⟨hcc, he.1 h, rfl, he.1 h⟩
      · rw [if_neg h]
        exact ⟨c, rfl, trivial, fun hx => h (he.2 hx)⟩

/-- A single block (a ROA prefix, a range) is contained exactly when all its items are in the set. -/
theorem containsBlock_iff (M : Nat) (c : List Blk) (hc : Canon M c) (b : Blk) (hb : b.lo ≤ b.hi) :
    containsBlock c b = true ↔ ∀ x, b.lo ≤ x → x ≤ b.hi → mem c x := containsBlock_iff' M c hc b hb

/-- … and intersects exactly when some item of it is. -/
theorem intersectsBlock_iff (M : Nat) (c : List Blk) (hc : Canon M c) (b : Blk) (hb : b.lo ≤ b.hi) :
    intersectsBlock c b = true ↔ ∃ x, b.lo ≤ x ∧ x ≤ b.hi ∧ mem c x :=
  intersectsBlock_iff' c (fun r hr => (hc.1 r hr).1) b hb

/-- The ASN count never panics; it is the number of items when that fits 32 bits and saturates
otherwise (the full AS space has 2^32 items). -/
theorem asnCount_spec (c : List Blk) : asnCount c = some (min 4294967295 (total c)) := asnCount_spec' c

/-- When `into_prefix` reports a prefix the range is exactly that aligned power-of-two block.
-/
theorem intoPrefix_sound (W lo hi len : Nat) (h : intoPrefix W lo hi = some len) :
    lo % 2 ^ (W - len) = 0 ∧ hi = lo + 2 ^ (W - len) - 1 := Chain.intoPrefix_sound W lo hi len h

/-- … and conversely every aligned power-of-two block is reported as a prefix of its length
(`into_prefix` is complete, so canonical chains store prefixes as prefixes). -/
theorem intoPrefix_complete (W k lo : Nat) (hk : k ≤ W) (hal : lo % 2 ^ k = 0) (hhi : lo + 2 ^ k - 1 < 2 ^ W) :
    intoPrefix W lo (lo + 2 ^ k - 1) = some (W - k) := Chain.intoPrefix_complete W k lo hk hal

/-- `to_v4_prefixes` / `to_v6_prefixes` return aligned prefixes
that tile the range exactly, in ascending order (with the fuel the caller uses, `2W + 2` ≥ the
number of steps): an address is in one of the prefixes iff it is in the range. -/
theorem toPrefixes_tiles (W start stop : Nat) (h1 : start ≤ stop) (h2 : stop < 2 ^ W) :
    Tiles W (toPrefixes W (2 * W + 2) start stop) start stop ∧
    ∀ x, (∃ p ∈ toPrefixes W (2 * W + 2) start stop, pfxLo W p ≤ x ∧ x ≤ pfxHi W p) ↔ (start ≤ x ∧ x ≤ stop) := by
  have t := Chain.toPrefixes_tiles W _ start stop h1 h2 (Nat.le_succ _)
  exact ⟨t, tiles_mem W _ start stop h1 t⟩


/-! ## the RFC 3779 AS resources extension in DER -/

/-- Whatever octets `AsResources::take_from` accepts, the result is
`inherit` or a canonical chain … -/
theorem asExt_decode_canonical (b : List Nat) (hb : ∀ x ∈ b, x < 256) (cl : Claim) (h : AsDer.decodeExt b = some cl) :
    cl = .inherit ∨ ∃ c, cl = .blocks c ∧ Canon AsDer.maxAs c := AsDer.decodeExt_sound b hb cl h

/-- … denoting exactly the union of the listed ids and ranges (any order, overlaps, adjacency). -/
theorem asBlocks_decode_den (content : List Nat) (hb : ∀ x ∈ content, x < 256) (c : List Blk)
    (h : AsDer.decodeBlocks content = some c) :
    ∃ bs, AsDer.blocksLoop content.length content = some bs ∧ ∀ x, mem c x ↔ ∃ b ∈ bs, b.lo ≤ x ∧ x ≤ b.hi :=
  (AsDer.decodeBlocks_spec content hb c h).imp fun _ h => ⟨h.1, h.2.2⟩

/-- The extension written for a canonical set, or for `inherit`, decodes to exactly
that.  (The size hypothesis is the real encoder's domain: in the model length octets are unbounded
naturals, so the statement also holds without it, but bcder's 0x84 form ends at 2^32 - 1.) -/
theorem asExt_roundtrip (c : List Blk) (hc : Canon AsDer.maxAs c)
    (_hsize : ((c.map AsDer.encodeBlock).flatten).length < 2 ^ 32) :
    AsDer.decodeExt (AsDer.encodeExt (.blocks c)) = some (.blocks c) ∧
    AsDer.decodeExt (AsDer.encodeExt .inherit) = some .inherit :=
  ⟨AsDer.decodeExt_encodeExt_blocks c hc, AsDer.decodeExt_encodeExt_inherit⟩


/-! ## the RFC 3779 IP address blocks in DER -/

/-- The BIT STRING content written for a prefix (`Prefix: PrimitiveContent`) is read
back by `Prefix::from_bit_string` as the same address and length, for every length 0…128. -/
theorem ipPrefix_roundtrip (a len : Nat) (hlen : len ≤ 128) (ha : a < 2 ^ 128) (hmin : IpDer.toMin a len = a) :
    IpDer.prefixOfContent (IpDer.encodePrefixContent a len) = some (a, len) :=
  IpDer.prefixOfContent_encode a len hlen ha hmin

/-- Every well-formed block — a prefix or a range, written in the shortest form
with `min_to_prefix` / `max_to_prefix` — is read back as itself, whatever follows it. -/
theorem ipBlock_roundtrip (b : Blk) (hb : b.lo ≤ b.hi) (hhi : b.hi ≤ IpDer.maxAddr) (rest : List Nat) :
    IpDer.takeOptBlock 128 (IpDer.encodeBlock b ++ rest) = .ok b rest :=
  IpDer.takeOptBlock_encodeBlock b hb hhi rest

/-- Every canonical chain of address blocks, encoded by `IpBlocks::encode_ref`, is
decoded by `IpBlocks::take_from_with_family` as the same chain — no bound on the number of blocks. -/
theorem ipBlocks_roundtrip (c : List Blk) (hc : Canon IpDer.maxAddr c) :
    IpDer.decodeBlocks 128 (IpDer.encodeBlocks c) = some c := by
  unfold IpDer.decodeBlocks IpDer.encodeBlocks
  rw [(Der.takeCons_reads Der.tagSeq _).2]
  dsimp only
  rw [IpDer.blocksLoop_encode c _ (IpDer.length_le_encodeBlocks c) hc.1]
  exact congrArg some (Chain.fromIter_canon_id IpDer.maxAddr c hc)

/-- Whatever octets the reader accepts — blocks in any order, overlapping, adjacent,
ranges that are prefixes — the result is a canonical chain … -/
theorem ipBlocks_decode_canonical (W : Nat) (b : List Nat) (hb : ∀ x ∈ b, x < 256) (c : List Blk)
    (h : IpDer.decodeBlocks W b = some c) : Canon IpDer.maxAddr c :=
  let ⟨_, _, _, _, _, h, _⟩ := IpDer.decodeBlocks_spec W b hb c h
  h

/-- … denoting exactly the union of the blocks listed in the encoding. -/
theorem ipBlocks_decode_den (W : Nat) (b : List Nat) (hb : ∀ x ∈ b, x < 256) (c : List Blk)
    (h : IpDer.decodeBlocks W b = some c) :
    ∃ content rest bs, Der.takeCons Der.tagSeq b = some (content, rest) ∧
      IpDer.blocksLoop W content.length content = some bs ∧
      ∀ x, mem c x ↔ ∃ blk ∈ bs, blk.lo ≤ x ∧ x ≤ blk.hi :=
  let ⟨content, rest, bs, h1, h2, _, h3⟩ := IpDer.decodeBlocks_spec W b hb c h
  ⟨content, rest, bs, h1, h2, h3⟩

/-- A block read with the IPv4 family starts on and ends before a
2^96 boundary: it is a range of IPv4 addresses, nothing of it leaks into the low 96 bits. -/
theorem ipBlock_v4_shape (b : List Nat) (blk : Blk) (rest : List Nat)
    (h : IpDer.takeOptBlock 32 b = .ok blk rest) : blk.lo % 2 ^ 96 = 0 ∧ blk.hi % 2 ^ 96 = 2 ^ 96 - 1 :=
  IpDer.takeOptBlock_shape 32 b blk rest h


/-! ## text forms (`Model/ResText.lean`; the formatters and the parsers are each tied to the library
by `as-fmt`, `ip-fmt`, `as-parse`, `ip-parse`) -/

/-- The text form of every canonical AS set parses back to the same set. -/
theorem as_text_roundtrip (c : List Blk) (hc : Canon 4294967295 c) :
    ResText.parseAs (ResText.fmtAs c) = some c := ResText.parseAs_fmt c hc

/-- Decimal numbers are read back, and different numbers are written differently. -/
theorem decimal_roundtrip (n : Nat) (h : n < 2 ^ 32) :
    ResText.parseU32 (ResText.decimal n) = some n ∧ ∀ m, ResText.decimal m = ResText.decimal n → m = n :=
  ⟨ResText.parseU32_decimal n h, fun m hm => ResText.decimal_injective m n hm⟩

/-- IPv4 addresses in dotted-quad form and IPv6 addresses in the RFC 5952 form the
formatter writes (first longest run of zero groups compressed, IPv4-mapped addresses in mixed
notation) are read back as the same address — for all 2^32 and all 2^128 addresses. -/
theorem address_text_roundtrip :
    (∀ a, a < 2 ^ 32 → ResText.parseV4 (ResText.fmtV4 a) = some a) ∧
    (∀ a, a < 2 ^ 128 → ResText.parseV6 (ResText.fmtV6 a) = some a) :=
  ⟨ResText.parseV4_fmtV4, ResText.parseV6_fmtV6⟩

/-- The text form of any list of IPv4 blocks — prefixes with their length, ranges,
single addresses — parses back to blocks with the same bounds (a `/32` is written as a bare
address and read as a one-address range: the same set). -/
theorem ipv4_text_roundtrip (ts : List ResText.TBlk) (h : ∀ t ∈ ts, ResText.V4Shaped t) :
    (ResText.parseIpItems true (ResText.fmtIp true ts)).map (·.map ResText.tblkBounds) =
      some (ts.map ResText.tblkBounds) :=
  ResText.parseIpItems_fmt_shaped true ts fun t ht => (ResText.shaped_v4 t).1 (h t ht)


/-- The text form of every canonical IPv6 set, and of every canonical IPv4 set, parses
back — items collected by `from_iter` — to the same set: prefixes with their length, ranges,
single addresses, IPv4-mapped IPv6 blocks included. -/
theorem ip_text_set_roundtrip (c : List Blk) (hc : Canon (2 ^ 128 - 1) c) :
    (ResText.parseIpItems false (ResText.fmtIp false (c.map ResText.tagged))).map
        (fun ts => fromIter (2 ^ 128 - 1) (ts.map ResText.tblkBounds)) = some c ∧
    ((∀ b ∈ c, b.lo % 2 ^ 96 = 0 ∧ b.hi % 2 ^ 96 = 2 ^ 96 - 1) →
      (ResText.parseIpItems true (ResText.fmtIp true (c.map ResText.tagged))).map
        (fun ts => fromIter (2 ^ 128 - 1) (ts.map ResText.tblkBounds)) = some c) :=
  ⟨ResText.ip6_text_set_roundtrip c hc, fun h4 => ResText.ip4_text_set_roundtrip c hc h4⟩

example : ResText.parseV6 (ResText.fmtV6 (2 ^ 112 + 2 ^ 48 + 5)) = some (2 ^ 112 + 2 ^ 48 + 5) :=
  ResText.parseV6_fmtV6 _ (by decide)
example : ResText.V4Shaped (.pfx (10 * 2 ^ 120) 8) := by
  refine ⟨by decide, by decide, by decide, by decide⟩


/-! ## resource-limit application (`RequestResourceLimit::apply_to`, modelled in `Model/ProvMsg.lean`,
tied by the `limit` op) -/

/-- one resource type: the result is the limit when it is given and lies inside the entitled set, the
entitled set when no limit is given, and there is no result exactly when a given limit sticks out -/
theorem limit_pick_spec (M : Nat) (want : Option (List Blk)) (have_ : List Blk)
    (hw : ∀ w, want = some w → Canon M w) (hh : Canon M have_) :
    (∀ r, ProvMsg.pick want have_ = some r ↔
        (want = none ∧ r = have_) ∨ (∃ w, want = some w ∧ r = w ∧ ∀ x, mem w x → mem have_ x)) := by
  intro r
  cases want with
  | none =>
    exact ⟨fun e => Or.inl ⟨rfl, (Option.some.inj e).symm⟩, fun h =>
      h.elim (fun h => congrArg some h.2.symm) fun ⟨_, e, _⟩ => nomatch e⟩
  | some w =>
    have := isEncompassed_iff' M w have_ (hw w rfl) hh
    show (if isEncompassed w have_ = true then some w else none) = some r ↔ _
    constructor
    · intro e
      split at e
      · exact Or.inr ⟨w, rfl, (Option.some.inj e).symm, this.1 ‹_›⟩
      · cases e
    · rintro (⟨e, _⟩ | ⟨w', e, rfl, hsub⟩)
      · cases e
      · cases e
        exact if_pos (this.2 hsub)

/-- Applying a limit gives a result exactly when every limited resource type lies inside the
entitled set; the result is then the limit for the limited types and the entitled resources for the
others — in particular never more than the entitled set. -/
theorem limit_apply_spec (l : ProvMsg.Limit) (s : ProvMsg.ResSet)
    (hla : ∀ w, l.asn = some w → Canon 4294967295 w) (hl4 : ∀ w, l.v4 = some w → Canon (2 ^ 128 - 1) w)
    (hl6 : ∀ w, l.v6 = some w → Canon (2 ^ 128 - 1) w)
    (ha : Canon 4294967295 s.asn) (h4 : Canon (2 ^ 128 - 1) s.v4) (h6 : Canon (2 ^ 128 - 1) s.v6) (r : ProvMsg.ResSet) :
    ProvMsg.applyTo l s = some r ↔
      ProvMsg.pick l.asn s.asn = some r.asn ∧ ProvMsg.pick l.v4 s.v4 = some r.v4 ∧ ProvMsg.pick l.v6 s.v6 = some r.v6 := by
  unfold ProvMsg.applyTo
  by_cases he : l.isEmpty = true
  · rw [if_pos he]
    simp only [ProvMsg.Limit.isEmpty, Bool.and_eq_true, Option.isNone_iff_eq_none] at he
    rw [he.1.1, he.1.2, he.2]
    constructor
    · rintro ⟨⟩; exact ⟨rfl, rfl, rfl⟩
    · rintro ⟨a, b, c⟩
      cases r
      cases s
      exact congrArg some (congr (congr (congrArg _ (Option.some.inj a)) (Option.some.inj b))
        (Option.some.inj c))
  · rw [if_neg he]
    cases ProvMsg.pick l.asn s.asn with
    | none => exact ⟨nofun, fun h => nomatch h.1⟩
    | some a =>
      cases ProvMsg.pick l.v4 s.v4 with
      | none => exact ⟨nofun, fun h => nomatch h.2.1⟩
      | some b =>
        cases ProvMsg.pick l.v6 s.v6 with
        | none => exact ⟨nofun, fun h => nomatch h.2.2⟩
        | some c =>
          constructor
          · rintro ⟨⟩; exact ⟨rfl, rfl, rfl⟩
          · rintro ⟨⟨⟩, ⟨⟩, ⟨⟩⟩; rfl


/-! ## `ResourceSet`: the three chains together (`Model/ResSetOps.lean`, tied by the `rset` / `rset-has` ops) -/
section ResourceSets
open Rpki.ResSetOps Rpki.ProvMsg

/-- all three chains canonical (IPv4 in the 128-bit space, as the library keeps it) -/
def SetCanon (s : ResSet) : Prop := Canon M32 s.asn ∧ Canon M128 s.v4 ∧ Canon M128 s.v6

/-- same members in every family -/
def SetSame (a b : ResSet) : Prop :=
  (∀ x, mem a.asn x ↔ mem b.asn x) ∧ (∀ x, mem a.v4 x ↔ mem b.v4 x) ∧ (∀ x, mem a.v6 x ↔ mem b.v6 x)

theorem canon_no_members (M : Nat) (c : List Blk) (hc : Canon M c) (h : ∀ x, ¬ mem c x) : c = [] :=
  canon_eq_nil M c hc h

/-- Union / intersection of resource sets are canonical in every family and denote the union / intersection
family by family. -/
theorem resset_union_spec (a b : ResSet) (ha : SetCanon a) (hb : SetCanon b) :
    SetCanon (ResSetOps.union a b) ∧
    (∀ x, mem (ResSetOps.union a b).asn x ↔ (mem a.asn x ∨ mem b.asn x)) ∧
    (∀ x, mem (ResSetOps.union a b).v4 x ↔ (mem a.v4 x ∨ mem b.v4 x)) ∧
    (∀ x, mem (ResSetOps.union a b).v6 x ↔ (mem a.v6 x ∨ mem b.v6 x)) := by
  have u1 := union_spec' M32 a.asn b.asn ha.1 hb.1
  have u2 := union_spec' M128 a.v4 b.v4 ha.2.1 hb.2.1
  have u3 := union_spec' M128 a.v6 b.v6 ha.2.2 hb.2.2
  exact ⟨⟨u1.1, u2.1, u3.1⟩, u1.2, u2.2, u3.2⟩

theorem resset_inter_spec (a b : ResSet) (ha : SetCanon a) (hb : SetCanon b) :
    SetCanon (ResSetOps.inter a b) ∧
    (∀ x, mem (ResSetOps.inter a b).asn x ↔ (mem a.asn x ∧ mem b.asn x)) ∧
    (∀ x, mem (ResSetOps.inter a b).v4 x ↔ (mem a.v4 x ∧ mem b.v4 x)) ∧
    (∀ x, mem (ResSetOps.inter a b).v6 x ↔ (mem a.v6 x ∧ mem b.v6 x)) := by
  have u1 := inter_spec' M32 a.asn b.asn ha.1 hb.1
  have u2 := inter_spec' M128 a.v4 b.v4 ha.2.1 hb.2.1
  have u3 := inter_spec' M128 a.v6 b.v6 ha.2.2 hb.2.2
  exact ⟨⟨u1.1, u2.1, u3.1⟩, u1.2, u2.2, u3.2⟩

/-- `ResourceSet::difference`: "added" is what the first set has and the second lacks, "removed" the reverse, both canonical. -/
theorem resset_diff_spec (a b : ResSet) (ha : SetCanon a) (hb : SetCanon b) :
    SetCanon (ResSetOps.diff a b).1 ∧ SetCanon (ResSetOps.diff a b).2 ∧
    (∀ x, mem (ResSetOps.diff a b).1.asn x ↔ (mem a.asn x ∧ ¬ mem b.asn x)) ∧
    (∀ x, mem (ResSetOps.diff a b).1.v4 x ↔ (mem a.v4 x ∧ ¬ mem b.v4 x)) ∧
    (∀ x, mem (ResSetOps.diff a b).1.v6 x ↔ (mem a.v6 x ∧ ¬ mem b.v6 x)) ∧
    (∀ x, mem (ResSetOps.diff a b).2.asn x ↔ (mem b.asn x ∧ ¬ mem a.asn x)) ∧
    (∀ x, mem (ResSetOps.diff a b).2.v4 x ↔ (mem b.v4 x ∧ ¬ mem a.v4 x)) ∧
    (∀ x, mem (ResSetOps.diff a b).2.v6 x ↔ (mem b.v6 x ∧ ¬ mem a.v6 x)) := by
  have d1 := difference_spec' M32 a.asn b.asn ha.1 hb.1
  have d2 := difference_spec' M128 a.v4 b.v4 ha.2.1 hb.2.1
  have d3 := difference_spec' M128 a.v6 b.v6 ha.2.2 hb.2.2
  have e1 := difference_spec' M32 b.asn a.asn hb.1 ha.1
  have e2 := difference_spec' M128 b.v4 a.v4 hb.2.1 ha.2.1
  have e3 := difference_spec' M128 b.v6 a.v6 hb.2.2 ha.2.2
  exact ⟨⟨d1.1, d2.1, d3.1⟩, ⟨e1.1, e2.1, e3.1⟩, d1.2, d2.2, d3.2, e1.2, e2.2, e3.2⟩

/-- `ResourceDiff::is_empty` holds exactly when the two sets are the same value. -/
theorem resset_diff_empty_iff_eq (a b : ResSet) (ha : SetCanon a) (hb : SetCanon b) :
    diffIsEmpty (ResSetOps.diff a b) = true ↔ a = b := by
  have k1 := difference_isEmpty_iff_eq M32 a.asn b.asn ha.1 hb.1
  have k2 := difference_isEmpty_iff_eq M128 a.v4 b.v4 ha.2.1 hb.2.1
  have k3 := difference_isEmpty_iff_eq M128 a.v6 b.v6 ha.2.2 hb.2.2
  unfold diffIsEmpty ResSetOps.isEmpty ResSetOps.diff
  simp only [Bool.and_eq_true]
  constructor
  · rintro ⟨⟨⟨p1, p2⟩, p3⟩, ⟨q1, q2⟩, q3⟩
    have e1 := k1.1 ⟨p1, q1⟩
    have e2 := k2.1 ⟨p2, q2⟩
    have e3 := k3.1 ⟨p3, q3⟩
    cases a
    cases b
    exact congr (congr (congrArg _ e1) e2) e3
  · rintro rfl
    exact ⟨⟨⟨(k1.2 rfl).1, (k2.2 rfl).1⟩, (k3.2 rfl).1⟩, ⟨(k1.2 rfl).2, (k2.2 rfl).2⟩, (k3.2 rfl).2⟩

/-- Containment of resource sets is inclusion in every family; `contains_asn` is membership. -/
theorem resset_contains_iff (a b : ResSet) (ha : SetCanon a) (hb : SetCanon b) :
    ResSetOps.contains a b = true ↔
      (∀ x, mem b.asn x → mem a.asn x) ∧ (∀ x, mem b.v4 x → mem a.v4 x) ∧ (∀ x, mem b.v6 x → mem a.v6 x) := by
  unfold ResSetOps.contains
  rw [Bool.and_eq_true, Bool.and_eq_true, isEncompassed_iff' M32 b.asn a.asn hb.1 ha.1,
    isEncompassed_iff' M128 b.v4 a.v4 hb.2.1 ha.2.1, isEncompassed_iff' M128 b.v6 a.v6 hb.2.2 ha.2.2]
  exact ⟨fun ⟨⟨p, q⟩, r⟩ => ⟨p, q, r⟩, fun ⟨p, q, r⟩ => ⟨⟨p, q⟩, r⟩⟩

theorem resset_containsAsn_iff (a : ResSet) (ha : SetCanon a) (x : Nat) (hx : x ≤ M32) :
    containsAsn a x = true ↔ mem a.asn x :=
  isEncompassed_singleton M32 a.asn ha.1 x hx

/-- a ROA address (a 128-bit range without a family) is reported as contained exactly when one block of the IPv4
or of the IPv6 chain covers its whole range -/
theorem resset_containsRoa_iff (a : ResSet) (lo hi : Nat) :
    containsRoa a lo hi = true ↔ (∃ r ∈ a.v4, r.lo ≤ lo ∧ hi ≤ r.hi) ∨ (∃ r ∈ a.v6, r.lo ≤ lo ∧ hi ≤ r.hi) := by
  unfold containsRoa
  simp only [Bool.or_eq_true, List.any_eq_true, Bool.and_eq_true, decide_eq_true_eq]

/-- The three text forms a canonical set prints (`Display` of its chains,
which is also what its serde form and the RFC 6492 attributes carry) are read back by `from_strs` as the same set —
IPv4 chains being chains of IPv4 blocks (low 96 bits all zero / all one, as the library keeps them). -/
theorem resset_text_roundtrip (s : ResSet) (hs : SetCanon s)
    (h4 : ∀ b ∈ s.v4, b.lo % 2 ^ 96 = 0 ∧ b.hi % 2 ^ 96 = 2 ^ 96 - 1) :
    fromStrs (ResText.fmtAs s.asn) (fmtV4 s.v4) (fmtV6 s.v6) = some s := by
  unfold fromStrs fmtV4 fmtV6
  rw [ProvMsg.readAs_fmt s.asn hs.1, ProvMsg.readIp_fmt true s.v4 hs.2.1 fun _ => h4,
    ProvMsg.readIp_fmt false s.v6 hs.2.2 nofun]

end ResourceSets

/-! ## Non-vacuity -/

example : Canon 4294967295 [⟨0, 2⟩, ⟨4, 4⟩, ⟨4294967294, 4294967295⟩] := by
  unfold Canon
  decide
example : IpDer.decodeBlocks 32 (IpDer.encodeBlocks [⟨10 * 2 ^ 120, 11 * 2 ^ 120 - 1⟩]) = some [⟨10 * 2 ^ 120, 11 * 2 ^ 120 - 1⟩] := by decide
example : IpDer.decodeBlocks 128 [0x30, 8, 0x30, 6, 3, 1, 0, 3, 1, 0] = some [⟨0, IpDer.maxAddr⟩] := by decide
example : fromIter 100 [⟨10, 20⟩, ⟨30, 40⟩, ⟨15, 35⟩] = [⟨10, 40⟩] := by decide
example : difference [⟨0, 10⟩] [⟨3, 4⟩, ⟨10, 12⟩] = [⟨0, 2⟩, ⟨5, 9⟩] := by decide
example : verifyIssued 100 [⟨0, 50⟩] (.blocks [⟨40, 60⟩]) true = some [⟨40, 50⟩] := by decide
example : verifyIssued 100 [⟨0, 50⟩] (.blocks [⟨40, 60⟩]) false = none := by
  simp [verifyIssued, isEncompassed, isEncompassedAux]

end Rpki.C03
