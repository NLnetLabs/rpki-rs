/-
  C05 — built objects decode back to themselves and look the same either way.

  Proved here (for all inputs in the profile), on the models tied to the code by C14, C17, C02, C03 and the
  `bytes` operations: the TLV layer round trip, the capture layout rule ("a captured sub-encoding holds the
  content of the SEQUENCE OF, not the SEQUENCE"), the manifest, ROA, ASPA and CRL-list content codecs, times,
  serial numbers, the signed-attribute set, and the whole objects — certificate, CRL, signed object, identity
  certificate, signed message with its own CRL, certification request, RTA — read back as written.  That
  builder, decoder, validator and re-encoder of the library agree on every accessor of both values is the
  correspondence run.
-/
import Rpki.Proofs.ManifestCodec
import Rpki.Proofs.RoaCodec
import Rpki.Props.C17
import Rpki.Props.C02
import Rpki.Proofs.IdEncLemmas
import Rpki.Proofs.SigMsgEncLemmas
import Rpki.Proofs.CsrEncLemmas
import Rpki.Proofs.RtaEncLemmas
namespace Rpki.Props.C05
set_option autoImplicit false
open Rpki.Der
abbrev Bytes := List Nat

/-- Whatever is encoded is read back, with nothing consumed beyond it. -/
theorem tlv_roundtrip (t : Nat) (c rest : Bytes) (ht : t % 32 ≠ 31) (hc : c.length < 2 ^ 32) :
    readTlv (tlv t c ++ rest) = some (t, c, rest) := readTlv_tlv' t c rest ht

/-- A captured sub-encoding that holds the *content* of a SEQUENCE OF (the
concatenated items) is read back item by item — this is the layout the decoders capture and, after
the repair, the builders too … -/
theorem capture_content_iterates (items : List (Nat × Bytes))
    (h : ∀ p ∈ items, p.1 % 32 ≠ 31 ∧ p.2.length < 2 ^ 32) :
    ∀ fuel, items.length ≤ fuel → readAll fuel (encodeAll items) = some items :=
  readAll_encodeAll items fun p hp => (h p hp).1

/-- … whereas a capture that includes the SEQUENCE header reads back as ONE value (the whole
list), not as the items: the layout the ROA and ASPA builders used before the repair, which is
why iterating a freshly built attestation failed. -/
theorem capture_with_header_is_one_value (items : List (Nat × Bytes))
    (hsize : (encodeAll items).length < 2 ^ 32) (fuel : Nat) (hf : 1 ≤ fuel) :
    readAll fuel (tlv 0x30 (encodeAll items)) = some [(0x30, encodeAll items)] := by
  have := readAll_encodeAll [(0x30, encodeAll items)] (fun p hp => by cases List.mem_singleton.1 hp; exact (by decide : 0x30 % 32 ≠ 31)) fuel hf
  rwa [encodeAll, List.map_cons, List.map_nil, List.flatten_cons, List.flatten_nil, List.append_nil] at this

/-- Whatever `ManifestContent::new` + `encode_ref` produce from a serial
number, two calendar times in order and any list of entries with legal names is decoded to exactly
those values; the reported length is the number of entries and the iterator yields them. -/
theorem manifest_decode_encode (number : Bytes) (tu nu : X509.Civil) (es : List Manifest.Entry)
    (hn : X509.VS number) (htu : X509.validCivil tu = true) (hnu : X509.validCivil nu = true)
    (hy1 : tu.y ≤ 9999) (hy2 : nu.y ≤ 9999) (hord : Manifest.civilKey tu ≤ Manifest.civilKey nu)
    (hes : ∀ e ∈ es, Manifest.EntryOk e) (hsize : (Manifest.encodeFileList es).length < 2 ^ 31) :
    ∃ m, Manifest.decodeContent (Manifest.encodeContent number tu nu es) = some m ∧
      m.number = number ∧ m.thisUpdate = tu ∧ m.nextUpdate = nu ∧ m.len = es.length ∧
      m.fileList = Manifest.encodeFileList es ∧ m.iter = some es :=
  Manifest.decode_encode number tu nu es hn htu hnu hy1 hy2 hord hes hsize

/-- … and encoding the decoded value again reproduces the same octets. -/
theorem manifest_reencode (number : Bytes) (tu nu : X509.Civil) (es : List Manifest.Entry)
    (hn : X509.VS number) (htu : X509.validCivil tu = true) (hnu : X509.validCivil nu = true)
    (hy1 : tu.y ≤ 9999) (hy2 : nu.y ≤ 9999) (hord : Manifest.civilKey tu ≤ Manifest.civilKey nu)
    (hes : ∀ e ∈ es, Manifest.EntryOk e) (hsize : (Manifest.encodeFileList es).length < 2 ^ 31) :
    ∀ m es', Manifest.decodeContent (Manifest.encodeContent number tu nu es) = some m → m.iter = some es' →
      Manifest.encodeContent m.number m.thisUpdate m.nextUpdate es' = Manifest.encodeContent number tu nu es :=
  Manifest.reencode number tu nu es hn htu hnu hy1 hy2 hord hes hsize

/-- Whatever list of entries (valid serial numbers and calendar dates, any
order, duplicates allowed) the CRL builder encodes, the decoder's counting pass accepts it, the iterator
yields exactly those entries, and `contains` answers membership of the serial number — it never
fails. -/
theorem crl_list_roundtrip (es : List Crl.Entry) (h : ∀ e ∈ es, Crl.EntryOk e) (s : Bytes) :
    Crl.capture (Crl.encodeList es) = some es.length ∧ Crl.entries (Crl.encodeList es) = some es ∧
    Crl.contains (Crl.encodeList es) s = some (decide (∃ e ∈ es, e.serial = s)) :=
  ⟨Crl.capture_encode es h, Crl.entries_encode es h, Crl.contains_encode es h s⟩

/-- For ARBITRARY captured octets the counting pass accepted (a decoded CRL, not necessarily one of
ours): the lookup cannot fail and reports a serial revoked iff the iterator lists it. -/
theorem crl_lookup_agrees_with_iteration (b : Bytes) (n : Nat) (h : Crl.capture b = some n) (s : Bytes) :
    ∃ es, Crl.entries b = some es ∧ es.length = n ∧ Crl.contains b s = some (decide (∃ e ∈ es, e.serial = s)) := by
  obtain ⟨es, h1, h2, _⟩ := Der.capture_iterate_parity Crl.takeOptEntry (fun _ => true) b.length b 0 n h
  exact ⟨es, h1, h2, Crl.contains_eq_listed b es h1 s⟩

/-- Times in both encodings and serial numbers in minimal DER are read back as written (from C17). -/
theorem time_roundtrip (c : X509.Civil) (hv : X509.validCivil c = true) (hy : c.y ≤ 9999) :
    X509.decodeTime (X509.encodeVaried c).1 (X509.encodeVaried c).2 = some c := C17.time_roundtrip c hv hy

theorem serial_roundtrip (a : Bytes) (ha : X509.VS a) :
    X509.decodeSerialContent (X509.encodeContent a) = some a := (C17.serial_der_roundtrip a ha).1

/-- The three attributes the builder writes are accepted by the reader in
whatever order the DER SET OF sorting puts them, and the signature input is their DER encoding. -/
theorem signed_attrs_roundtrip (ct md tc : Bytes) (tag : X509.TimeTag) (st : X509.Civil)
    (hct : SigObj.oidOk ct = true) (ht : X509.decodeTime tag tc = some st) (l : List Bytes)
    (hperm : l.Perm [SigObj.attr SigObj.oidContentType (tlv tagOid ct), SigObj.attr SigObj.oidMessageDigest (tlv tagOctetString md),
                     SigObj.attr SigObj.oidSigningTime (tlv (SigObj.timeOctet tag) tc)])
    (hlen : l.flatten.length ≤ 0xFFFF) :
    SigObj.parseAttrs true l.flatten = some (ct, md, st) ∧
    SigObj.encodeVerify l.flatten = some (tlv 0x31 l.flatten) :=
  ⟨C02.attrs_any_order true ct md tc tag st hct ht l hperm hlen,
   C02.encodeVerify_is_der l.flatten (by omega)⟩

/-! ## ROA and ASPA eContent (`Model/Roa.lean`, tied to `RoaBuilder` / `AspaBuilder` / `Roa::decode` /
`Aspa::decode` by the `roax`, `road`, `aspax`, `aspad` correspondence ops) -/

/-- For every AS number and every two lists of profile-conforming addresses — any count, any order,
duplicates, empty families — the eContent `RouteOriginAttestation::encode_ref` writes is accepted by
`RouteOriginAttestation::take_from` as the same captured values, whatever follows it, and iterating
the captured lists yields exactly the addresses given to the builder. -/
theorem roa_content_roundtrip (asId : Nat) (h : asId < 2 ^ 32) (a4 a6 : List Roa.Addr)
    (h4 : ∀ a ∈ a4, a.WF ∧ Roa.addrOk 32 a = true) (h6 : ∀ a ∈ a6, a.WF ∧ Roa.addrOk 128 a = true)
    (trailing : Bytes) :
    Roa.decodeContent (Roa.encodeContent ⟨asId, Roa.encodeAddrs a4, Roa.encodeAddrs a6⟩ ++ trailing)
      = some ⟨asId, Roa.encodeAddrs a4, Roa.encodeAddrs a6⟩ ∧
    Roa.iter (Roa.encodeAddrs a4) = some a4 ∧ Roa.iter (Roa.encodeAddrs a6) = some a6 :=
  ⟨Roa.decodeContent_encodeContent asId h a4 a6 h4 h6 trailing,
   Roa.iter_encodeAddrs a4 (fun a ha => (h4 a ha).1), Roa.iter_encodeAddrs a6 (fun a ha => (h6 a ha).1)⟩

/-- Whatever octets `RouteOriginAttestation::take_from` accepts, both address lists iterate without
failure (`RoaIpAddressIter::next` unwraps) and every address has its length and maxLength inside
its family. -/
theorem roa_decoded_iterates (b : Bytes) (c : Roa.Content) (h : Roa.decodeContent b = some c) :
    ∃ l4 l6, Roa.iter c.v4 = some l4 ∧ Roa.iter c.v6 = some l6 ∧
      (∀ a ∈ l4, Roa.addrOk 32 a = true) ∧ (∀ a ∈ l6, Roa.addrOk 128 a = true) := by
  obtain ⟨_, _, _, _, _, fc, v4, v6, _, _, _, _, _, hfam, e4, e6⟩ := Roa.decodeContent_inv b c h
  obtain ⟨i4, i6⟩ := Roa.famLoop_inv fc.length fc none none v4 v6 hfam (Roa.capOk_none 32) (Roa.capOk_none 128)
  obtain ⟨l4, a1, a2⟩ := Roa.capOk_iter 32 v4 i4
  obtain ⟨l6, b1, b2⟩ := Roa.capOk_iter 128 v6 i6
  rw [e4, e6]
  exact ⟨l4, l6, a1, b1, a2, b2⟩

/-- Every customer and every non-empty, strictly ascending provider list without the customer and
within the size limit, written by `AsProviderAttestation::encode_ref`, is accepted by
`AsProviderAttestation::take_from` as the same values, and the provider iterator yields the list. -/
theorem aspa_content_roundtrip (maxLen cust : Nat) (ps : List Nat) (hc : cust < 2 ^ 32) (hps : ∀ p ∈ ps, p < 2 ^ 32)
    (hne : ps ≠ []) (hinc : Roa.StrictInc ps) (hnot : cust ∉ ps) (hlen : ps.length ≤ maxLen) (trailing : Bytes) :
    Roa.decodeAspa maxLen (Roa.encodeAspa cust (Roa.encodeProviders ps) ++ trailing)
      = some ⟨cust, Roa.encodeProviders ps, ps.length⟩ ∧
    Roa.iterProviders (Roa.encodeProviders ps) = some ps :=
  ⟨Roa.decodeAspa_encodeAspa maxLen cust ps hc hps hne hinc hnot hlen trailing, Roa.iterProviders_encode ps hps⟩

/-- Whatever `AsProviderAttestation::take_from` accepts: the iterator cannot fail, `len()` is the
number of providers it yields, at most the limit, at least one, strictly ascending, and the
customer is not among them. -/
theorem aspa_decoded_iterates (maxLen : Nat) (b : Bytes) (a : Roa.Aspa) (h : Roa.decodeAspa maxLen b = some a) :
    ∃ ps, Roa.iterProviders a.providers = some ps ∧ ps.length = a.count ∧ a.count ≤ maxLen ∧ ps ≠ [] ∧
      Roa.StrictInc ps ∧ a.customer ∉ ps := by
  revert h
  fun_cases Roa.decodeAspa maxLen b <;> intro h <;> cases h
  obtain ⟨items, i1, i2, i3, i4, i5, i6⟩ :=
    Roa.provLoop_parity maxLen _ _ _ none 0 _ ‹Roa.provLoop _ _ _ _ _ _ = _›
  exact ⟨items, i1, i2, i3 (i6 rfl), i6 rfl, i4, i5⟩

example : (⟨10 * 2 ^ 120, 8, some 24⟩ : Roa.Addr).WF ∧ Roa.addrOk 32 ⟨10 * 2 ^ 120, 8, some 24⟩ = true := by
  refine ⟨⟨by decide, by decide, by decide, ?_⟩, by decide⟩
  intro m hm; injection hm with hm; omega
example : Roa.decodeAspa 16380 (Roa.encodeAspa 64500 (Roa.encodeProviders [1, 70000])) = some ⟨64500, Roa.encodeProviders [1, 70000], 2⟩ := by decide

/-! ### certificates: `TbsCert::encode_ref` and `TbsCert::from_constructed`

`Model/CertEnc.lean` is the writer (tied to the library by the `bytes cert` operations: for every certificate
the library builds, writing the decoded fields again with the model gives the library's to-be-signed
octets), `Model/CertDer.lean` the reader (tied by `certd`).  For every certificate whose fields are in the
profile the reader returns exactly the fields that were written. -/

/-- All 24 fields come back, the algorithm identifier
with the NULL parameter the writer always puts, the validity as the instants of the two calendar times. -/
theorem tbs_cert_roundtrip (d : CertDer.Decoded) (h : CertEnc.WF d) (outerParam : Bool) (signature : Bytes) :
    CertDer.decodeTbs (CertEnc.encodeTbs d) outerParam signature = some (CertEnc.readBack d outerParam signature) :=
  CertEnc.decodeTbs_encodeTbs d h outerParam signature

/-- and re-encoding what was read gives the same octets again (the writer looks at none of the fields the
reader fills in differently) -/
theorem tbs_cert_reencode (d : CertDer.Decoded) (outerParam : Bool) (signature : Bytes) :
    CertEnc.encodeTbs (CertEnc.readBack d outerParam signature) = CertEnc.encodeTbs d := rfl

/-- the hypothesis `WF` is what the builders' inputs have: canonical resource chains are read back by the IPv6
and AS readers, and the names the library derives from keys are complete values for the name reader -/
theorem wf_parts (cl4 cl6 cla : Chain.Claim) (s : Bytes)
    (h4 : CertDer.ClaimCanon IpDer.maxAddr cl4) (s4 : ∀ c, cl4 = .blocks c → ∀ b ∈ c, IpDer.V4Shaped b)
    (h6 : CertDer.ClaimCanon IpDer.maxAddr cl6) (ha : CertDer.ClaimCanon AsDer.maxAs cla) (hp : cla ≠ .missing) :
    CertEnc.ClaimRead 32 cl4 ∧ CertEnc.ClaimRead 128 cl6 ∧ CertEnc.AsRead cla ∧
    CertEnc.NameOk (tlv tagSeq (tlv tagSet (tlv tagSeq (tlv tagOid Consts.oidCommonName ++ tlv CertDer.tagPrintable s)))) :=
  ⟨CertEnc.claimRead32_of_v4 cl4 h4 s4, CertEnc.claimRead128_of_canon cl6 h6, CertEnc.asRead_of_canon cla ha hp,
   CertEnc.nameOk_cn s⟩

/-! non-vacuity: a CA certificate (repository and manifest URIs, all IPv6 space, inherited AS resources) in the
profile; its to-be-signed octets are read back -/
def exName (c : Nat) : Bytes :=
  tlv tagSeq (tlv tagSet (tlv tagSeq (tlv tagOid Consts.oidCommonName ++ tlv CertDer.tagPrintable [c])))

def exCert : CertDer.Decoded :=
  { serial := List.replicate 19 0 ++ [5], innerParam := true, outerParam := true,
    issuer := exName 65, subject := exName 66, validity := ⟨0, 0⟩,
    notBefore := ⟨2020, 1, 1, 0, 0, 0⟩, notAfter := ⟨2051, 12, 31, 23, 59, 59⟩,
    keyAlg := .rsa, keyUnused := 0, keyBits := [1, 2, 3], basicCa := some true, ski := List.replicate 20 7, aki := none,
    keyUsage := .ca, eku := none, ekuContent := [], crlUri := none, caIssuer := none,
    sia := { caRepository := some [114, 115, 121, 110, 99, 58, 47, 47, 104, 47, 109, 47], rpkiManifest := some [114, 115, 121, 110, 99, 58, 47, 47, 104, 47, 109, 47, 97, 46, 109, 102, 116] },
    trim := false, v4 := .missing, v6 := .blocks [⟨0, 2 ^ 128 - 1⟩], asn := .inherit, tbs := [], signature := [] }

theorem exCert_wf : CertEnc.WF exCert where
  serial := ⟨by decide, fun x hx => (List.mem_append.1 hx).elim (fun h => List.eq_of_mem_replicate h ▸ by decide)
    (fun h => List.mem_singleton.1 h ▸ by decide), by decide⟩
  issuer := CertEnc.nameOk_cn [65]
  subject := CertEnc.nameOk_cn [66]
  nb := by decide
  na := by decide
  key := by decide
  ski := by decide
  aki := by intro k h; cases h
  ekuSome := by intro x h; cases h
  ekuNone := by intro _; rfl
  crl := by intro u h; cases h
  aia := by intro u h; cases h
  sia := { repo := by intro u h; injection h with h; subst h; decide
           mft := by intro u h; injection h with h; subst h; decide
           so := by intro u h; cases h
           ntf := by intro u h; cases h }
  v4 := trivial
  v6 := CertEnc.claimRead128_of_canon _ ⟨fun b hb => by cases List.mem_singleton.1 hb; decide, List.pairwise_singleton _ _⟩
  asn := Or.inr trivial
  present := Or.inr (Or.inl rfl)

example : CertDer.decodeTbs (CertEnc.encodeTbs exCert) true [9] = some (CertEnc.readBack exCert true [9]) :=
  tbs_cert_roundtrip exCert exCert_wf true [9]

/-! ### whole objects: certificates, CRLs, signed objects

`Cert::take_from` first captures the to-be-signed value by *skipping* it (bcder's `capture_one`, the stack
machine of `Model/Skip.lean`), then parses the captured octets.  `Forest` is the set of octet strings made of
complete definite-length values; the skip machine accepts every one of them (`Proofs/SkipAccept.lean`), and
everything the writers produce is one (`Proofs/CertEncCert.lean`). -/

/-- the names the library derives from keys are forests -/
theorem forest_cn (s : Bytes) :
    CertDer.Forest (tlv tagSeq (tlv tagSet (tlv tagSeq (tlv tagOid Consts.oidCommonName ++ tlv CertDer.tagPrintable s)))) :=
  CertDer.Forest.cons1 _ (CertDer.Forest.cons1 _ (CertDer.Forest.cons1 _
    ((CertDer.Forest.prim1 _ _).append (CertDer.Forest.prim1 _ _))))

/-- `Cert::take_from` reads back what `Cert::encode_ref` writes, for every certificate in the profile, every
signature and whatever follows: the skip machine captures exactly the to-be-signed value, the outer algorithm
identifier and the signature bit string follow, and all fields come back. -/
theorem cert_roundtrip (d : CertDer.Decoded) (h : CertEnc.WF d) (hi : CertDer.Forest d.issuer) (hs : CertDer.Forest d.subject)
    (signature rest : Bytes) :
    CertDer.takeCert (CertEnc.encodeCert d signature ++ rest) = some (CertEnc.readBack d true signature, rest) :=
  (CertEnc.takeCert_encodeCert d h hi hs signature).1 rest

example : CertDer.takeCert (CertEnc.encodeCert exCert [9] ++ [1, 2]) = some (CertEnc.readBack exCert true [9], [1, 2]) :=
  cert_roundtrip exCert exCert_wf (forest_cn [65]) (forest_cn [66]) [9] [1, 2]

/-- `TbsCertList::take_from` reads back what `TbsCertList::encode_ref` writes: issuer, both update times,
the captured revocation list (any number of entries), authority key identifier and CRL number. -/
theorem tbs_crl_roundtrip (d : CrlDer.CrlD) (h : CrlEnc.WF d) :
    CrlDer.decodeTbsCrl (CrlEnc.encodeTbsCrl d) = some (true, { d with tbs := CrlEnc.encodeTbsCrl d, signature := [] }) :=
  CrlEnc.decodeTbsCrl_encodeTbsCrl d h

/-- `Crl::take_from` reads back what `Crl::encode_ref` writes, through the capture of the to-be-signed value -/
theorem crl_roundtrip (d : CrlDer.CrlD) (h : CrlEnc.WF d) (hi : CertDer.Forest d.issuer) (signature rest : Bytes) :
    CrlDer.takeCrl (CrlEnc.encodeCrl d signature ++ rest) =
      some ({ d with tbs := CrlEnc.encodeTbsCrl d, signature := signature }, rest) :=
  (CrlEnc.takeCrl_encodeCrl d h hi signature).1 rest

/-- `SignedObject::take_from` (strict) reads back what `SignedObject::encode_ref` writes: content type,
content, certificate, signer identifier, the signed attributes and what they say, signature.  With
`cert_roundtrip` for the certificate and `signed_attrs_roundtrip` for the attributes, a signed object built
by the library from in-profile parts is read back field by field. -/
theorem sigobj_roundtrip (ct content cb sid attrs md sig : Bytes) (st : X509.Civil) (cert : CertDer.Decoded)
    (hct : CertDer.oidOk ct = true) (hsid : sid.length = 20)
    (hp : SigObj.parseAttrs true attrs = some (ct, md, st))
    (hcert : CertDer.takeCert cb = some (cert, [])) :
    CmsDer.decodeSigObj (CmsEnc.encodeSigObj ct content cb sid attrs sig) =
      some { contentType := ct, content := content, cert := cert, sid := sid, attrs := attrs,
             messageDigest := md, signingTime := st, signature := sig } := by
  unfold CmsDer.decodeSigObj CmsEnc.encodeSigObj CmsDer.signedData CmsEnc.signerInfoEnc
  simp (disch := decide) only [List.append_assoc, takeCons_reads, takePrim_reads, CmsEnc.skipU8_enc,
    CmsEnc.takeDigestAlg_enc, CertDer.takeOid_tlv _ hct, hcert, CmsEnc.signerInfo_enc ct sid attrs md sig st hsid hp,
    ne_eq, not_true_eq_false, if_false]

theorem sigobj_with_cert_roundtrip (ct content sid attrs md sig csig : Bytes) (st : X509.Civil) (d : CertDer.Decoded)
    (h : CertEnc.WF d) (hi : CertDer.Forest d.issuer) (hs : CertDer.Forest d.subject)
    (hct : CertDer.oidOk ct = true) (hsid : sid.length = 20)
    (hp : SigObj.parseAttrs true attrs = some (ct, md, st)) :
    CmsDer.decodeSigObj (CmsEnc.encodeSigObj ct content (CertEnc.encodeCert d csig) sid attrs sig) =
      some { contentType := ct, content := content, cert := CertEnc.readBack d true csig, sid := sid, attrs := attrs,
             messageDigest := md, signingTime := st, signature := sig } :=
  sigobj_roundtrip ct content _ sid attrs md sig st _ hct hsid hp (CertEnc.takeCert_encodeCert d h hi hs csig).2

/-- `TbsIdCert::from_constructed` reads back what `TbsIdCert::encode_ref` writes: serial, names, validity,
key, the optional basic-constraints flag, both key identifiers. -/
theorem tbs_idcert_roundtrip (d : SigMsgDer.IdCertD) (h : IdEnc.WF d) (sig : Bytes) :
    SigMsgDer.decodeTbsId (IdEnc.encodeTbsId d) sig = some (IdEnc.readBack d (IdEnc.encodeTbsId d) sig) :=
  IdEnc.decodeTbsId_encodeTbsId d h sig

/-- `IdCert::decode` reads back what `IdCert::to_captured` writes -/
theorem idcert_roundtrip (d : SigMsgDer.IdCertD) (h : IdEnc.WF d) (hi : CertDer.Forest d.issuer)
    (hs : CertDer.Forest d.subject) (signature rest : Bytes) :
    SigMsgDer.decodeIdCert (IdEnc.encodeIdCert d signature ++ rest) =
      some (IdEnc.readBack d (IdEnc.encodeTbsId d) signature) :=
  (IdEnc.decodeIdCert_encodeIdCert d h hi hs signature).1 rest

/-- the message's own CRL: what is written is read back, and the serial numbers `contains` walks over are the
ones written (any number of entries) -/
theorem msg_crl_roundtrip (d : SigMsgDer.MsgCrlD) (h : SigMsgEnc.WFCrl d) (hi : CertDer.Forest d.issuer) (signature : Bytes) :
    SigMsgDer.msgCrlBody (SigMsgEnc.encodeTbsMsgCrl d ++ CertEnc.sigAlgEnc ++ tlv tagBitString (0 :: signature)) =
      some { d with innerParam := true, outerParam := true, tbs := SigMsgEnc.encodeTbsMsgCrl d, signature := signature } :=
  SigMsgEnc.msgCrlBody_enc d h hi signature

theorem msg_crl_serials (es : List Crl.Entry) (h : ∀ e ∈ es, Crl.EntryOk e) :
    SigMsgDer.msgRevokedSerials (Crl.encodeList es) = some (es.map (·.serial)) := by
  unfold SigMsgDer.msgRevokedSerials
  rw [show iteratePass SigMsgDer.takeOptMsgEntry _ (Crl.encodeList es) = some es from
    iteratePass_flatten SigMsgDer.takeOptMsgEntry Crl.encodeEntry rfl es _ (Crl.length_le_encodeList es)
      (fun e he => (SigMsgEnc.takeOptMsgEntry_encode e (h e he)).1)]
  rfl

/-- `SignedMessage::decode` (strict) reads back what `SignedMessage::encode_ref` writes around a written identity
certificate and a written CRL: content, certificate, CRL, signer identifier, signed attributes and digest,
signature. -/
theorem sigmsg_roundtrip (content sid attrs md sig csig lsig : Bytes) (st : X509.Civil)
    (c : SigMsgDer.IdCertD) (hc : IdEnc.WF c) (hci : CertDer.Forest c.issuer) (hcs : CertDer.Forest c.subject)
    (l : SigMsgDer.MsgCrlD) (hl : SigMsgEnc.WFCrl l) (hli : CertDer.Forest l.issuer) (hsid : sid.length = 20)
    (hp : SigObj.parseAttrs false attrs = some (Consts.oidProtocolContentType, md, st)) (rest : Bytes) :
    SigMsgDer.decodeSigMsg (SigMsgEnc.encodeSigMsg content (IdEnc.encodeIdCert c csig) (SigMsgEnc.encodeMsgCrl l lsig) sid attrs sig ++ rest) =
      some { content := content, cert := IdEnc.readBack c (IdEnc.encodeTbsId c) csig,
             crl := { l with innerParam := true, outerParam := true, tbs := SigMsgEnc.encodeTbsMsgCrl l, signature := lsig },
             sid := sid, attrs := attrs, messageDigest := md, signature := sig } :=
  (SigMsgEnc.decodeSigMsg_encodeSigMsg content _ _ sid attrs md sig st _ _ hsid hp (IdEnc.idCertBody_enc c hc hci hcs csig)
    (SigMsgEnc.msgCrlBody_enc l hl hli lsig)).1 rest

/-! non-vacuity: an identity certificate in the profile, with the serial number, names, validity and key of `exCert` -/
def exIdCert : SigMsgDer.IdCertD :=
  { serial := List.replicate 19 0 ++ [5], issuer := exName 65, subject := exName 66, validity := ⟨0, 0⟩,
    notBefore := ⟨2020, 1, 1, 0, 0, 0⟩, notAfter := ⟨2051, 12, 31, 23, 59, 59⟩, keyAlg := .rsa, keyUnused := 0,
    keyBits := [1, 2, 3], basicCa := none, ski := List.replicate 20 7, aki := some (List.replicate 20 8),
    tbs := [], signature := [] }

theorem exIdCert_wf : IdEnc.WF exIdCert where
  serial := exCert_wf.serial
  issuer := exCert_wf.issuer
  subject := exCert_wf.subject
  nb := exCert_wf.nb
  na := exCert_wf.na
  key := exCert_wf.key
  ski := exCert_wf.ski
  aki := by intro k h; injection h with h; subst h; decide

example : SigMsgDer.decodeIdCert (IdEnc.encodeIdCert exIdCert [9]) = some (IdEnc.readBack exIdCert (IdEnc.encodeTbsId exIdCert) [9]) :=
  (IdEnc.decodeIdCert_encodeIdCert exIdCert exIdCert_wf (forest_cn [65]) (forest_cn [66]) [9]).2

/-- `RpkiCaCsr::decode` reads back what `Csr::construct_rpki_ca` writes: subject, key, basic constraints
(cA), key usage (CA), the two or three URIs of the subject information access, the signature. -/
theorem csr_roundtrip (subject : Bytes) (alg : CertDer.KeyAlg) (unused : Nat) (bits repo mft : Bytes) (notify : Option Bytes)
    (h : CsrEnc.WF subject unused bits repo mft notify) (hs : CertDer.Forest subject) (signature rest : Bytes) :
    CsrDer.decodeCsr false (CsrEnc.encodeCsr subject alg unused bits repo mft notify signature ++ rest) =
      some (CsrEnc.readBack subject alg unused bits repo mft notify
        (CsrEnc.encodeContent subject alg unused bits repo mft notify) signature) :=
  (CsrEnc.decodeCsr_encodeCsr subject alg unused bits repo mft notify h hs signature).1 rest

/-- non-vacuity: a request for `rsync://h/m/` and `rsync://h/m/a.mft`, the URIs of `exCert` -/
example : CsrEnc.WF (exName 66) 0 [1, 2, 3] [114, 115, 121, 110, 99, 58, 47, 47, 104, 47, 109, 47]
    [114, 115, 121, 110, 99, 58, 47, 47, 104, 47, 109, 47, 97, 46, 109, 102, 116] none where
  subject := CertEnc.nameOk_cn [66]
  key := by decide
  sia := exCert_wf.sia

/-! ### re-encoding what was read

The readers return the written fields plus what they were given (octets, signature, derived instants); the
writers look at none of those, so writing the decoded value again gives the same octets. -/

theorem crl_reencode (d : CrlDer.CrlD) (signature : Bytes) :
    CrlEnc.encodeCrl { d with tbs := CrlEnc.encodeTbsCrl d, signature := signature } signature = CrlEnc.encodeCrl d signature := rfl

theorem idcert_reencode (d : SigMsgDer.IdCertD) (signature : Bytes) :
    IdEnc.encodeIdCert (IdEnc.readBack d (IdEnc.encodeTbsId d) signature) signature = IdEnc.encodeIdCert d signature := by
  -- compared as wholes, the two records differ in `validity`, and the instants would be computed to see it
  unfold IdEnc.encodeIdCert
  rfl

theorem msg_crl_reencode (d : SigMsgDer.MsgCrlD) (signature : Bytes) :
    SigMsgEnc.encodeMsgCrl { d with innerParam := true, outerParam := true, tbs := SigMsgEnc.encodeTbsMsgCrl d, signature := signature } signature =
      SigMsgEnc.encodeMsgCrl d signature := rfl

theorem cert_reencode (d : CertDer.Decoded) (signature : Bytes) :
    CertEnc.encodeCert (CertEnc.readBack d true signature) signature = CertEnc.encodeCert d signature := rfl

/-- so writing what `Cert::decode` returns for a written certificate gives the same octets, and decoding, writing and
decoding again is decoding once -/
theorem cert_decode_encode_decode (d : CertDer.Decoded) (h : CertEnc.WF d) (hi : CertDer.Forest d.issuer)
    (hs : CertDer.Forest d.subject) (signature : Bytes) :
    (CertDer.decodeCert (CertEnc.encodeCert d signature)).map (fun d' => CertEnc.encodeCert d' d'.signature) =
      some (CertEnc.encodeCert d signature) := by
  unfold CertDer.decodeCert
  rw [(CertEnc.takeCert_encodeCert d h hi hs signature).2]
  rfl

/-- `ResourceTaggedAttestation::take_from` reads back what `ResourceTaggedAttestation::encode_ref` writes: the
subject keys in the order given, the IPv4, IPv6 and AS resources (any canonical sets, at least one non-empty; an
empty address family beside a non-empty one is written as an empty list and read back as empty), the digest. -/
theorem rta_attestation_roundtrip (a : RtaDer.Attestation) (h : RtaEnc.WF a) (rest : Bytes) :
    RtaDer.decodeAttestation (RtaEnc.encodeAttestation a ++ rest) = some a :=
  (RtaEnc.decodeAttestation_encodeAttestation a h).1 rest

example : RtaEnc.WF { keys := [List.replicate 20 7], v4 := [], v6 := [⟨0, 2 ^ 128 - 1⟩], asn := [⟨64496, 64496⟩], digest := [1, 2] } where
  keys := fun k hk => by cases List.mem_singleton.1 hk; rfl
  v4 := ⟨Chain.canon_nil _, fun b hb => nomatch hb⟩
  v6 := ⟨fun b hb => by cases List.mem_singleton.1 hb; decide, List.pairwise_singleton _ _⟩
  asn := ⟨fun b hb => by cases List.mem_singleton.1 hb; decide, List.pairwise_singleton _ _⟩
  some := Or.inl (List.cons_ne_nil _ _)

/-- `Rta::decode` reads back what `Rta::to_captured` writes: the attestation, every certificate and CRL (given by
the content of their SEQUENCEs together with what their readers return — `cert_roundtrip`, `crl_roundtrip` supply
these for written ones), every signer info whose attributes parse with the attestation's content type; the CRL set
is left out when empty. -/
theorem rta_object_roundtrip (content : Bytes) (att : RtaDer.Attestation) (hatt : RtaDer.decodeAttestation content = some att)
    (certCs : List Bytes) (certs : List CertDer.Decoded) (hcerts : certCs.map CertDer.certBody = certs.map some)
    (crlCs : List Bytes) (crls : List CrlDer.CrlD) (hcrls : crlCs.map CrlDer.crlInner = crls.map some)
    (signers : List RtaDer.Signer)
    (hs : ∀ s ∈ signers, s.sid.length = 20 ∧
      SigObj.parseAttrs true s.attrs = some (Consts.oidCtRta, s.messageDigest, s.signingTime))
    (rest : Bytes) :
    RtaDer.decodeRta (RtaEnc.encodeRta content (certCs.map (tlv tagSeq)) (crlCs.map (tlv tagSeq)) signers ++ rest) =
      some { content := content, att := att, certs := certs, crls := crls, signers := signers } :=
  (RtaEnc.decodeRta_encodeRta content att hatt certCs certs hcerts crlCs crls hcrls signers hs).1 rest

end Rpki.Props.C05
