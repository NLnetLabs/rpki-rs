/-
  C11 — CA protocol XML round-trips and stays well-formed.
  First the generic element writer (`xml::encode`) and the reference reader, for every tree; on top of them the messages
  of RFC 8181, 8183 and 6492 as values: what `write` emits the reference reader reads back as the same message.  That
  the library's own reader and writer agree with these models is the correspondence run.
-/
import Rpki.Proofs.IdxMsgLemmas
import Rpki.Proofs.ProvMsgLemmas
namespace Rpki.Props.C11
set_option autoImplicit false
open Rpki.Xml Rpki.XmlDoc
abbrev Bytes := List Nat

/-- For every tree whose names are XML names, whose attribute values contain no raw
quote or `<`, and whose text lines are non-empty, free of `<` and of surrounding white space (no two
text lines in a row), the reference reader returns exactly the tree that was written. -/
theorem document_roundtrip (n : Node) (h : n.WF) (hroot : ∃ name attrs body, n = .elem name attrs body) :
    parseDoc (writeDoc n) = some n := parse_write n h hroot

/-- Distinct well-formed trees are written as distinct documents. -/
theorem writer_injective (a b : Node) (ha : a.WF) (hb : b.WF)
    (hra : ∃ name attrs body, a = .elem name attrs body) (hrb : ∃ name attrs body, b = .elem name attrs body)
    (h : writeDoc a = writeDoc b) : a = b := writeDoc_injective a b ha hb hra hrb h

/-- Attribute values (handles, tags, class names, URIs, resource sets): whatever octets the value
contains — including `< > & " '` — the escaped form is an admissible attribute value of the
document theorem, and un-escaping it gives back the value. -/
theorem attribute_value_roundtrip (v : Bytes) :
    ValueOk (escapeAttr v) ∧ unescapeAll (escapeAttr v) = some v :=
  ⟨⟨(escapeAttr_safe v).1, (escapeAttr_safe v).2⟩, unescape_escapeAttr v⟩

/-- Object contents: the Base64 text of any octet string is an admissible text line when the
object is not empty, and decodes to exactly the object. -/
theorem object_text_roundtrip (d : Bytes) (hd : ∀ x ∈ d, x < 256) (hne : d ≠ []) :
    TextOk (b64Encode d) ∧ xmlB64Decode (b64Encode d) = some d :=
  ⟨PubMsg.b64Encode_textOk d hne, xmlB64Decode_b64Encode d hd⟩

/-- the reader joins adjacent text lines and rejects a bare text root: the side conditions of
`document_roundtrip` are necessary -/
theorem side_conditions_needed :
    parseDoc (writeDoc (.elem [97] [] (some (.cons (.text [120]) (.cons (.text [121]) .nil))))) =
      some (.elem [97] [] (some (.cons (.text [120, 10, 32, 32, 121]) .nil))) ∧
    parseDoc (writeDoc (.text [120])) = none :=
  ⟨adjacent_text_lines_are_joined.1, text_root_is_rejected.2⟩

/-! ## RFC 8181 messages (`Model/PubMsg.lean`, tied to `publication::Message` by the `pubx` op) -/

/-- Every message the public constructors can build — list
query, success, any delta of publish / update / withdraw elements with any tags, URIs and object
contents (empty objects included), any list reply, any sequence of error reports — is written as a
document that the reference reader reads back as the same message, up to the two representation
choices `norm` names (an absent tag is written as the empty tag; an error reply without reports is
written like an empty list reply). -/
theorem publication_roundtrip (m : PubMsg.Msg) (hw : m.WF) : PubMsg.read (PubMsg.write m) = some (PubMsg.norm m) :=
  PubMsg.read_write m hw

/-- … the written document is well-formed for the generic document theorem when no object is empty … -/
theorem publication_tree_wf (m : PubMsg.Msg) (hw : m.WF) (hp : m.Plain) : (PubMsg.toTree m).WF := by
  open PubMsg in
  have h := toTree_reads m hw
  -- without empty objects the tree read back is the tree written
  have e : bodyW readBackBody m = body m := by
    cases m with
    | delta es =>
      refine List.map_congr_left fun e he => ?_
      have := hp e he
      cases e <;> first | rfl | exact congrArg (Node.elem _ _) (readBackBody_of_ne this)
    | _ => rfl
  rw [e] at h
  exact h.wf

/-- … and two messages that are written alike are the same message (up to `norm`). -/
theorem publication_injective (a b : PubMsg.Msg) (ha : a.WF) (hb : b.WF) (h : PubMsg.write a = PubMsg.write b) :
    PubMsg.norm a = PubMsg.norm b := PubMsg.write_injective_any a b ha hb h

/-- the two representation choices are real: these pairs of distinct messages are written alike -/
theorem publication_norm_needed (u h : List Nat) :
    PubMsg.write (.delta [.withdraw none u h]) = PubMsg.write (.delta [.withdraw (some []) u h]) ∧
    PubMsg.write (.errors []) = PubMsg.write (.listReply []) := ⟨rfl, rfl⟩

/-! ## RFC 8183 messages (`Model/IdxMsg.lean`, tied to the four identity-exchange types by the `idx` op) -/

/-- Every child request, parent response, publisher request
and repository response — any handles, service and repository URIs, tags (absent, empty or not),
certificate octets (empty included) — is written as a document that the reference reader reads
back as exactly the same message. -/
theorem idexchange_roundtrip (m : IdxMsg.Msg) (hw : m.WF) : IdxMsg.read (IdxMsg.write m) = some m :=
  IdxMsg.read_write m hw

/-- Two setup messages that are written alike are the same message. -/
theorem idexchange_injective (a b : IdxMsg.Msg) (ha : a.WF) (hb : b.WF) (h : IdxMsg.write a = IdxMsg.write b) : a = b :=
  inj_of_read (f := id) IdxMsg.read_write a b ha hb h

/-- The written tree meets the side conditions of the document theorem whenever the certificate is not empty. -/
theorem idexchange_tree_wf (m : IdxMsg.Msg) (hw : m.WF) (hne : m.cert ≠ []) : (IdxMsg.toTree m).WF := by
  open IdxMsg in
  have h := toTree_reads m
  rw [readBackBody_of_ne hne] at h
  have h' : Reads (toTree m) (.elem (toTree m).name (toTree m).attrs (ta (taName m) m.cert)) := h
  rw [← toTree_eq m] at h'
  exact h'.wf

/-! ## RFC 6492 messages (`Model/ProvMsg.lean`, tied to `provisioning::Message` by the `prvx` op) -/

/-- Every list, list response (any number of classes,
each with any canonical AS / IPv4 / IPv6 resource set, any time in the four-digit years, any
number of issued certificates with or without request limits, any certificate octets), issuance
request and response, revocation request and response (a key identifier of any length) and error
response is written as a document that the reference reader — including its readers of the
resource-set text, the time and the two Base64 flavours — reads back as exactly the same
message. -/
theorem provisioning_roundtrip (m : ProvMsg.Msg) (hw : m.WF) : ProvMsg.read (ProvMsg.write m) = some m :=
  ProvMsg.read_write m hw

/-- Two provisioning messages that are written alike are the same message. -/
theorem provisioning_injective (a b : ProvMsg.Msg) (ha : a.WF) (hb : b.WF) (h : ProvMsg.write a = ProvMsg.write b) :
    a = b := inj_of_read (f := id) ProvMsg.read_write a b ha hb h

/-- The subject key identifier of a revocation survives its unpadded URL-safe Base64 form, whatever
its length; the `resource_set_notafter` time survives its RFC 3339 form. -/
theorem provisioning_fields (k : List Nat) (hk : PubMsg.BytesOk k) (c : X509.Civil)
    (h : c.y < 10000 ∧ c.m < 100 ∧ c.d < 100 ∧ c.h < 100 ∧ c.mi < 100 ∧ c.s < 100) :
    ProvMsg.unB64Url (ProvMsg.b64Url k) = some k ∧ ProvMsg.readTime (ProvMsg.rfc3339 c) = some c :=
  ⟨ProvMsg.unB64Url_b64Url k hk, ProvMsg.readTime_rfc3339 c h⟩

end Rpki.Props.C11
