/-
C17 — X.509 times and validity windows mean what the calendar says; serial numbers round-trip.
Only property theorems and non-vacuity examples; lemmas are in
Rpki/Proofs/{X509Time,X509Serial,InstantLemmas}.lean.
-/
import Rpki.Proofs.X509Serial
import Rpki.Proofs.InstantLemmas
namespace Rpki.C17
open Rpki.X509 Rpki.Consts

/-- Every calendar second of the years 0–9999 encodes and decodes back to the same instant,
with `take_from` … -/
theorem time_roundtrip (c : Civil) (hv : validCivil c = true) (hy : c.y ≤ 9999) :
    decodeTime (encodeVaried c).1 (encodeVaried c).2 = some c :=
  time_roundtrip_with utcPivot rfl c hv hy

/-- … and with `take_opt_from` (which carries its own copy of the pivot). -/
theorem time_roundtrip_opt (c : Civil) (hv : validCivil c = true) (hy : c.y ≤ 9999) :
    decodeTimeOpt (encodeVaried c).1 (encodeVaried c).2 = some c :=
  time_roundtrip_with utcPivotOpt rfl c hv hy

/-- UTCTime exactly for 1950–2049, GeneralizedTime otherwise; widths 13 and 15. -/
theorem encode_tag_width (c : Civil) :
    ((encodeVaried c).1 = .utc ↔ 1950 ≤ c.y ∧ c.y ≤ 2049) ∧
    ((encodeVaried c).1 = .utc → (encodeVaried c).2.length = 13) ∧
    ((encodeVaried c).1 = .generalized → (encodeVaried c).2.length = 15) := by
  unfold encodeVaried utcYearMin utcYearMax
  by_cases hw : c.y < 1950 ∨ c.y > 2049
  · rw [if_pos hw]
    exact ⟨iff_of_false nofun fun h =>
        hw.elim (fun l => Nat.not_le.2 l h.1) (fun g => Nat.not_le.2 g h.2), nofun, fun _ => rfl⟩
  · rw [if_neg hw]
    exact ⟨iff_of_true rfl ⟨Nat.le_of_not_lt fun l => hw (.inl l), Nat.le_of_not_lt fun g => hw (.inr g)⟩,
      fun _ => rfl, nofun⟩

/-- Decoding accepts only the fixed-width all-digit 'Z'-terminated form naming a real calendar
date and time, with the two-digit year pivot at 50. -/
theorem decode_sound (tag : TimeTag) (bs : Bytes) (c : Civil) (h : decodeTime tag bs = some c) :
    validCivil c = true ∧
    bs = (match tag with | .utc => pad2 (c.y % 100) | .generalized => pad4 c.y)
          ++ pad2 c.m ++ pad2 c.d ++ pad2 c.h ++ pad2 c.mi ++ pad2 c.s ++ [90] ∧
    (tag = .utc → 1950 ≤ c.y ∧ c.y ≤ 2049) ∧ c.y ≤ 9999 := by
  unfold decodeTime at h
  revert h
  fun_cases decodeTimeWith utcPivot tag bs <;> intro h
  · cases h
  · rename_i yy r h1
    have ⟨e1, hyy⟩ := readChars2_iff.1 h1
    have ⟨hv, hy, hr⟩ := readRest_inv _ _ _ h
    -- the pivot puts the two digits into 1950–2049
    have hk : c.y % 100 = yy ∧ 1950 ≤ c.y ∧ c.y ≤ 2049 := by
      rw [hy, show utcPivot = 50 from rfl]
      split
      · exact ⟨(Nat.add_mul_mod_self_right yy 19 100).trans (Nat.mod_eq_of_lt hyy), by omega, by omega⟩
      · exact ⟨(Nat.add_mul_mod_self_right yy 20 100).trans (Nat.mod_eq_of_lt hyy), by omega, by omega⟩
    refine ⟨hv, ?_, fun _ => hk.2, Nat.le_trans hk.2.2 (by decide)⟩
    rw [hk.1, e1, hr]
    simp only [List.append_assoc]
  · cases h
  · rename_i y r h1
    have ⟨e1, hyy⟩ := readChars4_inv _ _ _ h1
    have ⟨hv, hy, hr⟩ := readRest_inv _ _ _ h
    refine ⟨hv, ?_, nofun, hy ▸ Nat.le_of_lt_succ hyy⟩
    rw [hy, e1, hr]
    simp only [List.append_assoc]

/-- A window accepts an evaluation time exactly when not-before ≤ time ≤ not-after. -/
theorem validity_iff (v : Validity) (now : Int) : verifyAt v now = .ok () ↔ v.nb ≤ now ∧ now ≤ v.na :=
  verifyAt_ok_iff v now

/-- `x509::Time` compares instants (`chrono::DateTime`);
for real calendar times the instant — seconds counted through the proleptic Gregorian calendar,
`Model/Instant.lean`, tied to `Time::timestamp` on every day of the years 1–9999 — is earlier exactly
when the civil time (year, month, day, hour, minute, second) is earlier, and different civil times are
different instants. -/
theorem calendar_order_is_instant_order (a b : Civil) (ha : validCivil a = true) (hb : validCivil b = true) :
    (unixOf a < unixOf b ↔ civilLt a b) ∧ (unixOf a = unixOf b ↔ a = b) := by
  unfold unixOf
  rw [Int.sub_lt_sub_right_iff, Int.ofNat_lt, Int.sub_left_inj, Int.ofNat_inj]
  exact ⟨secsOf_lt_iff a b ha hb, secsOf_injective a b ha hb, fun h => h ▸ rfl⟩

/-- A window given by two calendar times accepts a calendar time exactly when that time is not before
the first and not after the second **on the calendar**. -/
theorem validity_iff_calendar (nb na t : Civil) (h1 : validCivil nb = true) (h2 : validCivil na = true)
    (h3 : validCivil t = true) :
    verifyAt ⟨unixOf nb, unixOf na⟩ (unixOf t) = .ok () ↔ ¬ civilLt t nb ∧ ¬ civilLt na t := by
  rw [validity_iff, ← (calendar_order_is_instant_order t nb h3 h1).1,
    ← (calendar_order_is_instant_order na t h2 h3).1, Int.not_lt, Int.not_lt]

/-- `Time::years_from_date` keeps month, day and time of day (29 February becomes
28 February) and names a real calendar time whenever its argument does; with zero years and no leap day
it is the identity. -/
theorem years_from_date_spec (years : Int) (c : Civil) (h : validCivil c = true) :
    validCivil (yearsFromDate years c) = true ∧
    (yearsFromDate years c).m = c.m ∧ (yearsFromDate years c).h = c.h ∧ (yearsFromDate years c).mi = c.mi ∧
    ((c.d = 29 ∧ c.m = 2) → (yearsFromDate years c).d = 28) ∧
    (¬ (c.d = 29 ∧ c.m = 2) → (yearsFromDate years c).d = c.d) ∧
    (¬ (c.d = 29 ∧ c.m = 2) → yearsFromDate 0 c = c) := by
  refine ⟨yearsFromDate_valid years c h, rfl, rfl, rfl, fun hl => if_pos hl, fun hl => if_neg hl,
    fun hl => ?_⟩
  have hs : min c.s 59 = c.s := Nat.min_eq_left (Nat.le_of_lt_succ (validCivil_iff.1 h).2.2.2.2.2.2)
  obtain ⟨y, m, d, hh, mi, s⟩ := c
  unfold yearsFromDate
  rw [Civil.mk.injEq]
  exact ⟨by rw [Int.add_zero, Int.toNat_natCast], rfl, if_neg hl, rfl, rfl, hs⟩

/-- Trimming two windows gives their intersection. -/
theorem trim_inter (a b : Validity) (now : Int) :
    verifyAt (trim a b) now = .ok () ↔ verifyAt a now = .ok () ∧ verifyAt b now = .ok () := by
  rw [validity_iff, validity_iff, validity_iff]
  unfold trim
  rw [Int.max_le, Int.le_min]
  exact ⟨fun ⟨⟨h1, h2⟩, h3, h4⟩ => ⟨⟨h1, h3⟩, h2, h4⟩, fun ⟨⟨h1, h3⟩, h2, h4⟩ => ⟨⟨h1, h2⟩, h3, h4⟩⟩

/-- `from_slice` accepts exactly non-empty slices of ≤ 20 octets with value < 2^159 and keeps the value. -/
theorem serial_fromSlice (s : Bytes) (hs : AllBytes s) :
    (∀ a, fromSlice s = .ok a → s ≠ [] ∧ s.length ≤ 20 ∧ a = List.replicate (20 - s.length) 0 ++ s ∧
      toNatBE a = toNatBE s ∧ VS a) ∧
    (s ≠ [] → s.length ≤ 20 → toNatBE s * 2 < 256 ^ 20 →
      fromSlice s = .ok (List.replicate (20 - s.length) 0 ++ s)) := by
  refine ⟨fun a h => ?_, fun hne hl hv => by rw [fromSlice_eq s hs hne hl, if_pos hv]⟩
  have hne : s ≠ [] := by rintro rfl; cases h
  have hl : s.length ≤ 20 := Nat.le_of_not_lt fun hl => by
    rw [fromSlice, if_neg hne, if_pos hl] at h; cases h
  rw [fromSlice_eq s hs hne hl] at h
  split at h
  · rename_i hv
    cases h
    have hlen : (List.replicate (20 - s.length) 0 ++ s).length = 20 := by
      rw [List.length_append, List.length_replicate, Nat.sub_add_cancel hl]
    exact ⟨hne, hl, rfl, toNatBE_pad _ _, hlen, allBytes_append.2 ⟨allBytes_replicate _, hs⟩,
      by rwa [toNatBE_pad]⟩
  · cases h

/-- Serial numbers round-trip through their decimal text … -/
theorem serial_dec_roundtrip (a : Bytes) (ha : VS a) : fromStr (encodeDec a) = some a :=
  -- the 49 digits `encode_dec` has room for suffice: 2^159 < 10^49
  dec_roundtrip_fuel a ha 49
    (Nat.lt_of_mul_lt_mul_right (Nat.lt_trans ha.2.2 (by decide : (256 : Nat) ^ 20 < 10 ^ 49 * 2)))

/-- … parsing a decimal string yields exactly its value, and fails exactly on non-digits or overflow. -/
theorem serial_fromStr_value (t a : Bytes) (h : fromStr t = some a) :
    t.all isDigit = true ∧ toNatBE a = digitsVal t 0 ∧ VS a := by
  rw [fromStr_spec] at h
  split at h
  · next c => cases h; exact ⟨c.1, (vs_arr c.2).2, (vs_arr c.2).1⟩
  · cases h

theorem serial_fromStr_complete (t : Bytes) (hd : t.all isDigit = true) (hv : digitsVal t 0 * 2 < 256 ^ 20) :
    ∃ a, fromStr t = some a := ⟨_, (fromStr_spec t).trans (if_pos ⟨hd, hv⟩)⟩

/-- The DER INTEGER content is the minimal non-negative form of the value and decodes back. -/
theorem serial_der_roundtrip (a : Bytes) (ha : VS a) :
    decodeSerialContent (encodeContent a) = some a ∧
    toNatBE (encodeContent a) = toNatBE a ∧ (encodeContent a).headD 0 < 128 ∧ encodeContent a ≠ [] ∧
    ¬ ((encodeContent a).length ≥ 2 ∧ (encodeContent a).headD 0 = 0 ∧ (encodeContent a).getD 1 0 < 128) :=
  der_roundtrip' a ha

/-- Array order (the derived `Ord` on the 20 octets) is numeric order. -/
theorem serial_order (a b : Bytes) (ha : VS a) (hb : VS b) :
    lexCmp a b = compare (toNatBE a) (toNatBE b) :=
  lexCmp_eq_compare a b (by rw [ha.1, hb.1]) ha.2.1 hb.2.1

example : validCivil ⟨2024, 2, 29, 23, 59, 59⟩ = true ∧
    encodeVaried ⟨2024, 2, 29, 23, 59, 59⟩ = (.utc, [50, 52, 48, 50, 50, 57, 50, 51, 53, 57, 53, 57, 90]) := by decide
example : decodeTime .utc [53, 48, 48, 49, 48, 49, 48, 48, 48, 48, 48, 48, 90] = some ⟨1950, 1, 1, 0, 0, 0⟩ := by decide
example : decodeTime .utc [43, 53, 48, 49, 48, 49, 48, 48, 48, 48, 48, 48, 90] = none := by decide
example : verifyAt ⟨10, 20⟩ 10 = .ok () ∧ verifyAt ⟨10, 20⟩ 21 = .error .tooOld := by decide
example : VS (List.replicate 19 0 ++ [128]) ∧ encodeContent (List.replicate 19 0 ++ [128]) = [0, 128] := by
  exact ⟨⟨by decide, allBytes_append.2 ⟨allBytes_replicate 19, AllBytes.cons.2 ⟨by decide, nofun⟩⟩,
    by decide⟩, by decide⟩

end Rpki.C17
