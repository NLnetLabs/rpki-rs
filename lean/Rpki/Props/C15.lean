/-
C15 — SLURM: a payload is dropped exactly when some filter of its kind matches; JSON round trip;
assertions yield exactly their payload.
-/
import Rpki.Proofs.PrefixOrder
import Rpki.Proofs.JsonPrettyLemmas
namespace Rpki.C15
open Rpki.Slurm Rpki.Prefix Rpki.Consts

/-- a prefix filter matches an origin: at least one criterion is present, every present criterion holds -/
def matchesPrefix (pf : PrefixFilter) (o : Origin) : Prop :=
  (pf.pfx.isSome ∨ pf.asn.isSome) ∧ (∀ q, pf.pfx = some q → covers q o.mlp.pfx = true) ∧
  (∀ a, pf.asn = some a → a = o.asn)

def matchesKey (bf : BgpsecFilter) (k : RouterKey) : Prop :=
  (bf.ski.isSome ∨ bf.asn.isSome) ∧ (∀ s, bf.ski = some s → s = k.ski) ∧ (∀ a, bf.asn = some a → a = k.asn)

theorem dropOrigin_iff (pf : PrefixFilter) (o : Origin) : pf.dropOrigin o = true ↔ matchesPrefix pf o := by
  simp only [PrefixFilter.dropOrigin, andOr_iff, matchesPrefix, beq_iff_eq]

theorem dropKey_iff (bf : BgpsecFilter) (k : RouterKey) : bf.dropKey k = true ↔ matchesKey bf k := by
  simp only [BgpsecFilter.dropKey, andOr_iff, matchesKey, beq_iff_eq]

/-- A payload item is dropped exactly when one of the filters *for that kind of item* matches. -/
theorem drop_iff (f : Filters) (p : Payload) :
    f.dropPayload p = true ↔
      (∃ o, p = .origin o ∧ ∃ pf ∈ f.pfs, matchesPrefix pf o) ∨
      (∃ k, p = .routerKey k ∧ ∃ bf ∈ f.bgpsec, matchesKey bf k) ∨
      (∃ a, p = .aspa a ∧ ∃ af ∈ f.aspa.getD [], af.customer = some a.customer) := by
  have haspa (af : AspaFilter) (a : Aspa) : af.dropAspa a = true ↔ af.customer = some a.customer := by
    unfold AspaFilter.dropAspa
    cases af.customer <;> simp
  unfold Filters.dropPayload
  rw [show slurmDropAllKinds = true from rfl, if_pos rfl]
  -- Both sides have one part per kind. For a payload of one kind, a filter of another kind never drops it, so
  -- two of the three `any`s are false, and two of the three disjuncts are false because the constructors
  -- differ; what is left is `any` over the filters of that kind against `∃ filter ∈ …`, filter by filter.
  cases p <;>
    simp only [Bool.or_eq_true, List.any_eq_true, PrefixFilter.dropPayload, BgpsecFilter.dropPayload,
      AspaFilter.dropPayload, dropOrigin_iff, dropKey_iff, haspa, Bool.false_eq_true, and_false, exists_false,
      or_false, false_or, reduceCtorEq, false_and, Payload.origin.injEq, Payload.routerKey.injEq,
      Payload.aspa.injEq, exists_eq_left']

/-- The prefix criterion is inclusion of the origin's address range (for well-formed prefixes). -/
theorem prefix_criterion_is_range (q : Pfx) (o : Origin) (hq : WF q) (ho : WF o.mlp.pfx) :
    covers q o.mlp.pfx = true ↔ q.isV4 = o.mlp.pfx.isV4 ∧ q.lo ≤ o.mlp.pfx.lo ∧ o.mlp.pfx.hi ≤ q.hi :=
  covers_iff_range' q o.mlp.pfx hq ho

/-- Filters with no criteria match nothing. -/
theorem no_criteria_no_match (o : Origin) (k : RouterKey) (a : Aspa) (c1 c2 c3 : Option Bytes) :
    (PrefixFilter.mk none none c1).dropPayload (.origin o) = false ∧
    (BgpsecFilter.mk none none c2).dropPayload (.routerKey k) = false ∧
    (AspaFilter.mk none c3).dropPayload (.aspa a) = false := ⟨rfl, rfl, rfl⟩

/-- Serialising a file to its JSON tree and parsing it back gives an equal file. -/
theorem json_roundtrip (f : SlurmFile) (h : f.WF) : SlurmFile.fromJson f.toJson = some f :=
  SlurmFile.roundtrip f h

/-- The reference reader gives back the tree a text was written from —
nested arrays and objects, numbers, strings with every octet value (serde_json's escapes for `"`,
`\\` and the control characters, everything else as it is); prefixes and Base64 values come back as
the strings they were written as (`erase`). -/
theorem json_text_tree_roundtrip (j : Json) : JsonText.parse (JsonText.render j) = some (JsonText.erase j) :=
  JsonText.parse_render j

/-- What `SlurmFile::to_string` writes (compared byte for byte with the
library on every case) is read back — text to tree, the strings under `prefix`, `SKI` and
`routerPublicKey` through `Prefix::from_str` / the Base64 reader, then the field deserialisers — as the
file it was written for. -/
theorem json_text_roundtrip (f : SlurmFile) (hw : f.WF) (ht : JsonText.FileTextWF f) :
    JsonText.readFile (JsonText.fileText f) = some f := JsonText.readFile_fileText f hw ht

/-- The model of serde_json's reader (`Model/JsonRead.lean`: white
space, every escape of RFC 8259 with surrogate pairs, the number grammar, no trailing commas, nothing
after the value; compared with `SlurmFile::from_str` on written and on mutated texts) reads the text
the writer model produces for a well-formed file back as that file — the statement's "serialising a
file to JSON and parsing it back gives an equal file", on octets in both directions. -/
theorem from_str_to_string (f : SlurmFile) (hw : f.WF) (ht : JsonText.FileTextWF f) :
    JsonRead.readFile (JsonText.fileText f) = some f := JsonRead.compact.read_file 0 f hw ht

/-- The pretty form (`serde_json`'s `PrettyFormatter`: every element
and member on its own line, indented by two spaces per level, `"name": value`; `Model/JsonPretty.lean`, compared
byte for byte with `SlurmFile::to_string_pretty`) is read back by the reader model as the file, too. -/
theorem from_str_to_string_pretty (f : SlurmFile) (hw : f.WF) (ht : JsonText.FileTextWF f) :
    JsonRead.readFile (JsonText.fileTextPretty f) = some f := JsonRead.pretty.read_file 0 f hw ht

/-- On what the writer produces, the serde_json reader model and the reference reader agree (for every tree). -/
theorem readers_agree_on_written_text (j : Json) :
    JsonRead.readText (JsonText.render j) = JsonText.parse (JsonText.render j) := by
  rw [JsonRead.readText_render, JsonText.parse_render]

/-- Files with the same text are the same file. -/
theorem json_text_injective (f g : SlurmFile) (hf : f.WF) (hg : g.WF) (tf : JsonText.FileTextWF f)
    (tg : JsonText.FileTextWF g) (h : JsonText.fileText f = JsonText.fileText g) : f = g := by
  have h1 := JsonText.readFile_fileText f hf tf
  rw [h, JsonText.readFile_fileText g hg tg] at h1
  cases h1; rfl

/-- Each assertion yields the payload item with exactly its fields, in the order
prefix – BGPsec – ASPA. -/
theorem assertions_payload (a : Assertions) :
    a.payloads = a.pas.map (fun x => Payload.origin ⟨x.mlp, x.asn⟩)
      ++ a.bgpsec.map (fun x => Payload.routerKey ⟨x.ski, x.asn, x.key⟩)
      ++ (a.aspa.getD []).map (fun x => Payload.aspa ⟨x.customer, x.providers⟩) := rfl

/-- `SlurmFile::new` chooses version 2 exactly when ASPA entries are present. -/
theorem new_version (f : Filters) (a : Assertions) :
    (SlurmFile.new f a).version = (if a.aspa.isSome ∨ f.aspa.isSome then 2 else 1) ∧
    (SlurmFile.new f a).filters = f ∧ (SlurmFile.new f a).assertions = a := by
  unfold SlurmFile.new
  cases a.aspa <;> cases f.aspa <;> simp

def exFilters : Filters := ⟨[], [⟨none, some 5, none⟩], none⟩
example : exFilters.dropPayload (.routerKey ⟨[], 5, []⟩) = true := by decide
example : exFilters.dropPayload (.routerKey ⟨[], 6, []⟩) = false := by decide
example : (SlurmFile.mk 1 exFilters ⟨[], [], none⟩).WF :=
  ⟨Or.inl rfl, ⟨nofun, List.forall_mem_singleton.mpr ⟨show 5 < U32 by decide, nofun⟩, nofun⟩, nofun, nofun, nofun⟩

def exFile : SlurmFile := ⟨1, ⟨[⟨some ⟨8, 10 * 2 ^ 120⟩, some 5, some [34, 10]⟩], [], none⟩, ⟨[], [], none⟩⟩
example : JsonText.FileTextWF exFile := by
  refine ⟨?_, by simp [exFile], by simp [exFile], by simp [exFile]⟩
  intro x hx; simp [exFile] at hx; subst hx
  intro p hp; cases hp
  exact PfxText.wf_of_newV4 (10 * 2 ^ 24) 8 _ (by omega) (by decide)

end Rpki.C15
