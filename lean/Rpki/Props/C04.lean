/-
  C04 — decoders never panic or run away.

  What a theorem can carry here is the repository's own reasoning behind its `unwrap()`,
  `panic!` and arithmetic sites; panic-freedom of bcder, quick-xml and aws-lc on arbitrary octets
  is not modelled (it is explored by the differential fuzz run of the check).  The theorems below
  are the guard lemmas, about the decoder models that the operations `certd`, `cmsd`, `crld`, `smsgd`, `rtad`, `csrd`,
  `tald`, `cmsdr`, `smsgdr` of this check and the correspondence runs of C02, C10 and C14 tie to the code.
-/
import Rpki.Props.C14
import Rpki.Props.C05
import Rpki.Proofs.RtaDerLemmas
import Rpki.Proofs.TalLemmas
import Rpki.Proofs.FuelFree
namespace Rpki.Props.C04
set_option autoImplicit false
open Rpki.Der
abbrev Bytes := List Nat

/-- The `unwrap()`s of `FileListIter::next`: whatever octets were captured at decoding time, the later
iteration never fails, because the skipping pass and the taking pass decide identically. -/
theorem manifest_iter_cannot_panic (b : Bytes) (m : Manifest.Content) (h : Manifest.decodeContent b = some m) :
    ∃ es, m.iter = some es ∧ es.length = m.len := by
  obtain ⟨es, h1, h2, _⟩ := C14.len_eq_iter b m h
  exact ⟨es, h1, h2⟩

/-- `iter_uris` unwraps `join` on every file name of a decoded manifest. -/
theorem manifest_uris_cannot_panic (b : Bytes) (m : Manifest.Content) (base : Uri.Rsync)
    (h : Manifest.decodeContent b = some m) : ∃ us, Manifest.iterUris m base = some us := by
  obtain ⟨_, us, _, h2, _⟩ := C14.iterUris_inside b m base h
  exact ⟨us, h2⟩

/-- `panic!("overly long signed attrs")` of `SignedAttrs::encode_verify`: the parser rejects
attribute sets above 65535 octets, so for every decoded object the verification input exists. -/
theorem encode_verify_cannot_panic (strict : Bool) (attrs ct md : Bytes) (st : X509.Civil)
    (h : SigObj.parseAttrs strict attrs = some (ct, md, st)) :
    ∃ msg, SigObj.encodeVerify attrs = some msg :=
  ⟨_, C02.encodeVerify_is_der attrs (C02.parseAttrs_len h)⟩

/-- `asn_count` is total (never overflows) and saturating. -/
theorem asn_count_total (c : List Chain.Blk) : ∃ n, Chain.asnCount c = some n ∧ n ≤ 4294967295 :=
  ⟨_, C03.asnCount_spec c, Nat.min_le_left _ _⟩

/-- ROA prefixes, ASPA providers, CRL entries (`…Iter::next` / `contains` unwrap).  These three
capturing decoders run a counting pass that calls an item reader and an extra check, and later
iterate the captured octets with the *same* item reader (the source anchors `roaIterUsesTake`,
`aspaIterUsesTake`, `crlIterUsesTake` are re-read on every run).  For every item reader and every
check: if the counting pass accepted, the iteration cannot fail, yields exactly as many items, and
every item passed the check. -/
theorem capture_iterate_parity {α : Type} (take : Bytes → Take α) (check : α → Bool) :
    ∀ (fuel : Nat) (b : Bytes) (n k : Nat), capturePass take check fuel b n = some k →
      ∃ items, iteratePass take fuel b = some items ∧ items.length + n = k ∧ ∀ a ∈ items, check a = true :=
  Der.capture_iterate_parity take check

/-- A value read by the TLV layer lies inside the input: header, content
and rest partition it, so nested decoding works on strictly shorter inputs and terminates. -/
theorem readTlv_partition (b : Bytes) (t : Nat) (c rest : Bytes) (h : readTlv b = some (t, c, rest)) :
    ∃ hdr, b = hdr ++ c ++ rest ∧ 2 ≤ hdr.length ∧ hdr.length ≤ 6 := by
  revert h
  fun_cases readTlv b
  all_goals intro h
  all_goals try (cases h; done)
  cases h
  obtain ⟨lb, rfl, h1, h2⟩ := Der.readLen_inv _ _ _ ‹readLen _ = some _›
  exact ⟨_ :: lb, by rw [List.append_assoc, List.take_append_drop]; rfl, Nat.succ_le_succ h1, Nat.succ_le_succ h2⟩

/-! ### the `unwrap()` sites behind the decoders, for every octet string

The decoder models of `Model/CrlDer.lean`, `Model/SigMsgDer.lean` and `Model/CmsDer.lean` are tied to
`Crl::decode`, `SignedMessage::decode` and `SignedObject::decode` (strict) by the `crld` / `smsgd` /
`cmsd` operations.  Whatever octets they accept, the later walks over the captured parts cannot fail. -/

/-- `Crl::contains` / `RevokedCertificates::iter` after `Crl::decode` -/
theorem crl_octets_lookup_cannot_panic (b : Bytes) (d : CrlDer.CrlD) (h : CrlDer.decodeCrl b = some d)
    (serial : Bytes) :
    ∃ es, Crl.entries d.revoked = some es ∧
      Crl.contains d.revoked serial = some (decide (∃ e ∈ es, e.serial = serial)) := by
  obtain ⟨n, hn⟩ := CrlDer.decodeCrl_revoked b d h
  obtain ⟨es, h1, _, h2⟩ := C05.crl_lookup_agrees_with_iteration d.revoked n hn serial
  exact ⟨es, h1, h2⟩

/-- `SignedMessageCrl::verify_not_revoked` after `SignedMessage::decode` (the module's own entry reader,
which tolerates entry extensions) -/
theorem sigmsg_octets_revocation_check_cannot_panic (b : Bytes) (m : SigMsgDer.SigMsgD)
    (h : SigMsgDer.decodeSigMsg b = some m) :
    ∃ l, SigMsgDer.msgRevokedSerials m.crl.revoked = some l :=
  SigMsgDer.decodeSigMsg_serials b m h

/-- `SignedAttrs::encode_verify` after `SignedObject::decode` / `SignedMessage::decode` -/
theorem encode_verify_octets_cannot_panic (b : Bytes) (hb : AllBytes b) :
    (∀ o, CmsDer.decodeSigObj b = some o → ∃ msg, SigObj.encodeVerify o.attrs = some msg) ∧
    (∀ m, SigMsgDer.decodeSigMsg b = some m → ∃ msg, SigObj.encodeVerify m.attrs = some msg) := by
  refine ⟨?_, ?_⟩
  · intro o h
    obtain ⟨hp, _⟩ := CmsDer.decodeSigObj_spec b o hb h
    exact encode_verify_cannot_panic true o.attrs _ _ _ hp
  · intro m h
    obtain ⟨st, hp⟩ := SigMsgDer.decodeSigMsg_spec b m h
    exact encode_verify_cannot_panic false m.attrs _ _ _ hp

/-! ### bcder's recursive skipping (`capture_one`, `skip_one`, `skip_all`) -/

/-- Whatever the skip machine accepts, it leaves a proper suffix of the content
it was called on: at least one header (two octets) is consumed and nothing outside the enclosing value is
touched — also with nested indefinite-length values, which it admits in DER mode. -/
theorem skip_machine_bounded (b rest : Bytes) (h : CertDer.skipOne b = some rest) :
    rest <:+ b ∧ rest.length + 2 ≤ b.length :=
  CertDer.skipOne_suffixM false b rest (skipOneM_false ▸ h)

/-- More fuel changes nothing: a refusal by the model of the
skip machine is a refusal of the input (so a disagreement with the library cannot hide behind the counter). -/
theorem skip_machine_fuel_never_binds (b : Bytes) (k : Nat) :
    CertDer.skipLoop (b.length + 1 + k) b [] = CertDer.skipOne b :=
  skipLoopM_false ▸ skipOneM_false ▸ CertDer.skipOne_fuelM false b k

/-! ### the remaining entry points: RTA, CSR, TAL, bare keys

`Model/RtaDer.lean`, `Model/CsrDer.lean` and `Model/Tal.lean` are total functions from octets to a value or a
refusal, compared with the library on every run (`rtad`, `csrd`, `tald`, `keyd`).  What they accept satisfies
what the accessors of the decoded values rely on. -/

/-- `Rta::decode`: the attestation's three resource sets are canonical chains and every embedded CRL went
through the counting pass (so `contains` / iteration on it cannot fail). -/
theorem rta_octets_accessors_cannot_fail (b : Bytes) (hb : AllBytes b) (r : RtaDer.RtaD) (h : RtaDer.decodeRta b = some r) :
    Chain.Canon IpDer.maxAddr r.att.v4 ∧ Chain.Canon IpDer.maxAddr r.att.v6 ∧ Chain.Canon AsDer.maxAs r.att.asn ∧
    ∀ d ∈ r.crls, ∃ n, Crl.capture d.revoked = some n :=
  RtaDer.decodeRta_spec b hb r h

/-- `RpkiCaCsr::decode` / `BgpsecCsr::decode`: the accessors that unwrap (`basic_ca`, `key_usage`, the SIA
URIs) have their values; a router request's extended key usage names the router purpose. -/
theorem csr_octets_profile (router : Bool) (b : Bytes) (d : CsrDer.CsrD) (h : CsrDer.decodeCsr router b = some d) :
    (router = false → d.basicCa.isSome ∧ d.keyUsage.isSome ∧ d.sia.isSome) ∧ (router = true → d.eku ≠ some false) := by
  revert h
  fun_cases CsrDer.decodeCsr router b <;> intro h <;> try cases h
  exact CsrDer.decodeContent_profile router _ _ d h

/-- `Tal::read_named`: every URI of an accepted locator is a valid URI of the scheme it is reported under, the
key is one `PublicKey::decode` accepts, and `prefer_https` only reorders. -/
theorem tal_octets_spec (b : Bytes) (uris : List Tal.TalUri) (alg : CertDer.KeyAlg) (unused : Nat) (bits : Bytes)
    (h : Tal.decodeTal b = some (uris, alg, unused, bits)) :
    (∀ u ∈ uris, Tal.UriValid u) ∧ (∃ key, Tal.decodeKey key = some (alg, unused, bits)) ∧
    (Tal.preferHttps uris).Perm uris :=
  ⟨(Tal.decodeTal_spec b uris alg unused bits h).1, (Tal.decodeTal_spec b uris alg unused bits h).2,
   Tal.preferHttps_perm uris⟩

/-! ### relaxed mode (`strict = false`: bcder's BER mode)

`Gen/BerModel.lean` is the octet-level decoder model with the decoding mode as a parameter; it is written from the
text of the DER model by `tools/gen_ber_model.py` over the mode-dependent readers of `Model/Ber.lean` (lengths,
indefinite form, BOOLEAN, BIT STRING, constructed strings, the skip machine) and compared with the library's
`strict = false` entry points on every run (`cmsdr`, `smsgdr`). -/

/-- The strict decoders are the `ber = false` instance of the mode-parametrized model — so everything proved
about the DER model is a statement about that instance, and the relaxed decoders run the same text. -/
theorem strict_is_the_der_instance :
    CmsDer.decodeSigObjM false = CmsDer.decodeSigObj ∧ CmsDer.decodeTypedM false = CmsDer.decodeTyped ∧
    SigMsgDer.decodeSigMsgM false = SigMsgDer.decodeSigMsg ∧ CertDer.decodeCertM false = CertDer.decodeCert ∧
    SigMsgDer.decodeIdCertM false = SigMsgDer.decodeIdCert ∧ SigObj.parseAttrsM false = SigObj.parseAttrs ∧
    SigMsgDer.msgRevokedSerialsM false = SigMsgDer.msgRevokedSerials :=
  ⟨CmsDer.decodeSigObjM_false, CmsDer.decodeTypedM_false, SigMsgDer.decodeSigMsgM_false, CertDer.decodeCertM_false,
   SigMsgDer.decodeIdCertM_false, SigObj.parseAttrsM_false, SigMsgDer.msgRevokedSerialsM_false⟩

theorem readers_at_der :
    Der.readLenM false = Der.readLen ∧ Der.readTlvM false = Der.readTlv ∧ Der.takeOptConsM false = Der.takeOptCons ∧
    Der.takeOptPrimM false = Der.takeOptPrim ∧ CertDer.skipLoopM false = CertDer.skipLoop ∧
    CertDer.takeOptBoolM false = CertDer.takeOptBool ∧ Manifest.bitStringTakeM false = Manifest.bitStringTake :=
  ⟨readLenM_false, readTlvM_false, takeOptConsM_false, takeOptPrimM_false, skipLoopM_false, takeOptBoolM_false,
   bitStringTakeM_false⟩

/-- `SignedAttrs::encode_verify` after a relaxed-mode decode: in either mode the attribute parser refuses more
than 65535 octets, so the verification input exists (`panic!("overly long signed attrs")` is unreachable). -/
theorem relaxed_encode_verify_cannot_panic (ber strict : Bool) (attrs ct md : Bytes) (st : X509.Civil)
    (h : SigObj.parseAttrsM ber strict attrs = some (ct, md, st)) :
    ∃ msg, SigObj.encodeVerify attrs = some msg := by
  have hl : attrs.length ≤ 0xFFFF := by
    unfold SigObj.parseAttrsM at h
    split at h
    · cases h
    · split at h
      · cases h
      · omega
  exact ⟨_, C02.encodeVerify_is_der attrs (by omega)⟩

/-- Whatever a DER reader reads, the BER reader reads as the same value
(lengths, whole values, constructed and primitive values present or absent, the skip machine, BOOLEAN, BIT STRING).
This is the reader level of "every strictly accepted object is accepted in relaxed mode with the same fields";
for whole objects that statement is `relaxed_extends_strict` below. -/
theorem der_values_are_read_in_ber :
    (∀ b x, Der.readLen b = some x → Der.readLenM true b = some x) ∧
    (∀ b x, Der.readTlv b = some x → Der.readTlvM true b = some x) ∧
    (∀ tag b c rest, Der.takeOptCons tag b = .ok c rest → Der.takeOptConsM true tag b = .ok c rest) ∧
    (∀ tag b, Der.takeOptCons tag b = .absent → Der.takeOptConsM true tag b = .absent) ∧
    (∀ tag b c rest, Der.takeOptPrim tag b = .ok c rest → Der.takeOptPrimM true tag b = .ok c rest) ∧
    (∀ tag b, Der.takeOptPrim tag b = .absent → Der.takeOptPrimM true tag b = .absent) ∧
    (∀ b rest, CertDer.skipOne b = some rest → CertDer.skipOneM true b = some rest) ∧
    (∀ b x rest, CertDer.takeOptBool b = .ok x rest → CertDer.takeOptBoolM true b = .ok x rest) ∧
    (∀ c x, Manifest.bitStringTake c = some x → Manifest.bitStringTakeM true c = some x) :=
  ⟨fun b x h => readLenM_mono false b x (readLenM_false ▸ h),
   fun b _ h => (readTlv_monoEq b (h ▸ rfl)).trans h,
   fun tag b _ _ h => (takeOptCons_monoEq tag b (h ▸ nofun)).trans h,
   fun tag b h => (takeOptCons_monoEq tag b (h ▸ nofun)).trans h,
   fun tag b _ _ h => (takeOptPrim_monoEq tag b (h ▸ nofun)).trans h,
   fun tag b h => (takeOptPrim_monoEq tag b (h ▸ nofun)).trans h,
   fun b rest h => skipOneM_mono false b rest (skipOneM_false ▸ h),
   fun b _ _ h => (takeOptBool_monoEq b (h ▸ nofun)).trans h,
   bitStringTake_mono⟩

/-- `SignedMessageCrl::verify_not_revoked` and `SignedAttrs::encode_verify` after `SignedMessage::decode` in either
mode (`ber = true`: `strict = false`).  The lemmas behind this are proved for both modes at once
(`Proofs/CrlDerLemmas.lean`): the captured revocation list went through the counting pass with the
mode's own entry reader, so the later walk over it with the same reader cannot fail; the signed attributes parse,
with the protocol content type and the returned digest, and are at most 65535 octets. -/
theorem sigmsg_octets_cannot_panic_either_mode (ber : Bool) (b : Bytes) (m : SigMsgDer.SigMsgD)
    (h : SigMsgDer.decodeSigMsgM ber b = some m) :
    (∃ l, SigMsgDer.msgRevokedSerialsM ber m.crl.revoked = some l) ∧
    (∃ st, SigObj.parseAttrsM ber false m.attrs = some (Consts.oidProtocolContentType, m.messageDigest, st)) ∧
    (∃ msg, SigObj.encodeVerify m.attrs = some msg) := by
  obtain ⟨st, hp⟩ := SigMsgDer.decodeSigMsg_specM ber b m h
  exact ⟨SigMsgDer.decodeSigMsg_serialsM ber b m h, ⟨st, hp⟩,
    relaxed_encode_verify_cannot_panic ber false m.attrs _ _ _ hp⟩

/-- Signed objects (ROA, ASPA, manifest, generic) decoded in either mode: the signed attributes parse to the
returned content type, digest and signing time, `SignedAttrs::encode_verify` cannot reach its `panic!`, and the
resources of the embedded certificate are canonical chains (what the block iterators, `asn_count` and the coverage
checks rely on).  The lemmas of `Proofs/CertDerLemmas.lean` and `CmsDerLemmas.lean` hold for both modes, on top of
the facts that the mode-parametrized readers hand on octets of their input (`Proofs/BerSub.lean`). -/
theorem sigobj_octets_either_mode (ber : Bool) (b : Bytes) (hb : AllBytes b) (o : CmsDer.SigObjD)
    (h : CmsDer.decodeSigObjM ber b = some o) :
    SigObj.parseAttrsM ber true o.attrs = some (o.contentType, o.messageDigest, o.signingTime) ∧
    (∃ msg, SigObj.encodeVerify o.attrs = some msg) ∧
    CertDer.ClaimCanon IpDer.maxAddr o.cert.v4 ∧ CertDer.ClaimCanon IpDer.maxAddr o.cert.v6 ∧
    CertDer.ClaimCanon AsDer.maxAs o.cert.asn := by
  obtain ⟨hp, cc, rest, hcc, hc⟩ := CmsDer.decodeSigObj_specM ber b o hb h
  exact ⟨hp, relaxed_encode_verify_cannot_panic ber true o.attrs _ _ _ hp, CertDer.takeCert_canonM ber cc o.cert rest hcc hc⟩

/-- the skip machine in either mode: what it accepts leaves a proper suffix, and its loop counter never decides -/
theorem skip_machine_either_mode (ber : Bool) (b : Bytes) :
    (∀ rest, CertDer.skipOneM ber b = some rest → rest <:+ b ∧ rest.length + 2 ≤ b.length) ∧
    (∀ k, CertDer.skipLoopM ber (b.length + 1 + k) b [] = CertDer.skipOneM ber b) :=
  ⟨fun rest h => CertDer.skipOne_suffixM ber b rest h, fun k => CertDer.skipOne_fuelM ber b k⟩

/-! ### bounded work: what a reader hands on is smaller, and the model's loop counters never decide

The implementation's loops carry no counter; they end because every value read is at least two octets long.  The
model's loops carry one (Lean wants the recursion structural).  These theorems show, for either mode, that content and
rest of every value read are together at least two octets shorter than the input — so the work of every loop is
bounded by the length of the input — and that no counter ever runs out: any counter at or above the length gives
the same result, so a refusal, a panic of an `unwrap()` (`none`) or a short list never comes from the counter. -/

theorem readers_hand_on_less (ber : Bool) :
    (∀ tag b c rest, takeOptConsM ber tag b = .ok c rest → c.length + rest.length + 2 ≤ b.length) ∧
    (∀ tag b c rest, takeOptPrimM ber tag b = .ok c rest → c.length + rest.length + 2 ≤ b.length) ∧
    (∀ b t c rest, readTlvM ber b = some (t, c, rest) → c.length + rest.length + 2 ≤ b.length) ∧
    (∀ k cur c rest, CertDer.indefBodyM ber k cur = some (c, rest) → c.length + rest.length + 2 ≤ cur.length) ∧
    (∀ k b v, octetLeavesM ber k b = some v → v.length ≤ b.length) :=
  ⟨fun tag b c rest h => (takeOptConsM_hands ber tag b c rest h).size,
   fun tag b c rest h => (takeOptPrimM_hands ber tag b c rest h).size,
   fun b t c rest h => (readTlvM_hands ber b t c rest h).size,
   fun k cur c rest h => (CertDer.indefBodyM_hands ber k cur c rest h).size,
   fun k b v h => (octetLeavesM_sublist ber k b v h).length_le⟩

theorem content_loops_never_run_out (ber : Bool) :
    (∀ {σ : Type} (tag : Nat) (f : σ → Bytes → Option σ) (b : Bytes) (s : σ) (k : Nat),
      CertDer.foldConsM ber tag f (b.length + 1 + k) b s = CertDer.foldConsM ber tag f (b.length + 1) b s) ∧
    (∀ {σ : Type} (tag : Nat) (f : σ → Bytes → Option σ) (b : Bytes) (s : σ) (k : Nat),
      CertDer.foldPrimM ber tag f (b.length + 1 + k) b s = CertDer.foldPrimM ber tag f (b.length + 1) b s) ∧
    (∀ (b : Bytes) (k : Nat), CertDer.skipAllM ber (b.length + k) b = CertDer.skipAllM ber b.length b) ∧
    (∀ (b : Bytes) (k : Nat), CertDer.indefBodyM ber (b.length + 1 + k) b = CertDer.indefBodyM ber (b.length + 1) b) ∧
    (∀ (b : Bytes) (k : Nat), octetLeavesM ber (b.length + k) b = octetLeavesM ber b.length b) :=
  ⟨fun tag f b s k => CertDer.foldConsM_fuel ber tag f _ _ b s (Nat.lt_add_right k (Nat.lt_succ_self _)) (Nat.lt_succ_self _),
   fun tag f b s k => CertDer.foldPrimM_fuel ber tag f _ _ b s (Nat.lt_add_right k (Nat.lt_succ_self _)) (Nat.lt_succ_self _),
   fun b k => CertDer.skipAllM_fuel ber _ _ b (Nat.le_add_right _ k) (Nat.le_refl _),
   fun b k => CertDer.indefBodyM_fuel ber _ _ b (Nat.lt_add_right k (Nat.lt_succ_self _)) (Nat.lt_succ_self _),
   fun b k => octetLeavesM_fuel ber _ _ b (Nat.le_add_right _ k) (Nat.le_refl _)⟩

/-- the loops over captured lists (manifest file list, CRL entries, ROA prefixes, ASPA providers, message CRL
entries in either mode): counting pass and iteration alike -/
theorem item_loops_never_run_out :
    (∀ b n k, Manifest.countLoop (b.length + k) b n = Manifest.countLoop b.length b n) ∧
    (∀ b k, Manifest.iterLoop (b.length + k) b = Manifest.iterLoop b.length b) ∧
    (∀ b serial k, Crl.containsLoop (b.length + k) b serial = Crl.containsLoop b.length b serial) ∧
    (∀ b n k check, capturePass Crl.takeOptEntry check (b.length + k) b n = capturePass Crl.takeOptEntry check b.length b n) ∧
    (∀ b k, iteratePass Crl.takeOptEntry (b.length + k) b = iteratePass Crl.takeOptEntry b.length b) ∧
    (∀ b n k check, capturePass Roa.takeOptAddr check (b.length + k) b n = capturePass Roa.takeOptAddr check b.length b n) ∧
    (∀ b k, iteratePass Roa.takeOptAddr (b.length + k) b = iteratePass Roa.takeOptAddr b.length b) ∧
    (∀ b k, iteratePass Roa.takeOptAsn (b.length + k) b = iteratePass Roa.takeOptAsn b.length b) ∧
    (∀ ber b n k check, capturePass (SigMsgDer.takeOptMsgEntryM ber) check (b.length + k) b n =
      capturePass (SigMsgDer.takeOptMsgEntryM ber) check b.length b n) ∧
    (∀ ber b k, iteratePass (SigMsgDer.takeOptMsgEntryM ber) (b.length + k) b =
      iteratePass (SigMsgDer.takeOptMsgEntryM ber) b.length b) :=
  ⟨fun b n k => FuelFree.countLoop_fuel _ _ b n (Nat.le_add_right _ k) (Nat.le_refl _),
   fun b k => FuelFree.iterLoop_fuel _ _ b (Nat.le_add_right _ k) (Nat.le_refl _),
   fun b serial k => FuelFree.containsLoop_fuel serial _ _ b (Nat.le_add_right _ k) (Nat.le_refl _),
   fun b n k check => capturePass_fuel _ check FuelFree.crlEntry_shrinks _ _ b n (Nat.le_add_right _ k) (Nat.le_refl _),
   fun b k => iteratePass_fuel _ FuelFree.crlEntry_shrinks _ _ b (Nat.le_add_right _ k) (Nat.le_refl _),
   fun b n k check => capturePass_fuel _ check FuelFree.roaAddr_shrinks _ _ b n (Nat.le_add_right _ k) (Nat.le_refl _),
   fun b k => iteratePass_fuel _ FuelFree.roaAddr_shrinks _ _ b (Nat.le_add_right _ k) (Nat.le_refl _),
   fun b k => iteratePass_fuel _ FuelFree.aspaAsn_shrinks _ _ b (Nat.le_add_right _ k) (Nat.le_refl _),
   fun ber b n k check => capturePass_fuel _ check (FuelFree.msgEntry_shrinks ber) _ _ b n (Nat.le_add_right _ k) (Nat.le_refl _),
   fun ber b k => iteratePass_fuel _ (FuelFree.msgEntry_shrinks ber) _ _ b (Nat.le_add_right _ k) (Nat.le_refl _)⟩

/-- … and the remaining loops: the RFC 3779 block lists, the ASPA provider check, the ROA address families, the
signed attributes (either mode), the comment and URI lines of a TAL -/
theorem remaining_loops_never_run_out :
    (∀ b k, AsDer.blocksLoop (b.length + k) b = AsDer.blocksLoop b.length b) ∧
    (∀ W b k, IpDer.blocksLoop W (b.length + k) b = IpDer.blocksLoop W b.length b) ∧
    (∀ maxLen customer b last n k, Roa.provLoop maxLen customer (b.length + k) b last n = Roa.provLoop maxLen customer b.length b last n) ∧
    (∀ b v4 v6 k, Roa.famLoop (b.length + k) b v4 v6 = Roa.famLoop b.length b v4 v6) ∧
    (∀ ber strict b p k, SigObj.parseLoopM ber strict (b.length + k) b p = SigObj.parseLoopM ber strict b.length b p) ∧
    (∀ b k, Tal.skipComments (b.length + k) b = Tal.skipComments b.length b) ∧
    (∀ b acc k, Tal.takeUris (b.length + 1 + k) b acc = Tal.takeUris (b.length + 1) b acc) :=
  ⟨fun b k => AsDer.blocksLoop_eq ▸ FuelFree.itemsLoop_fuel _ FuelFree.asBlock_shrinks _ _ b (Nat.le_add_right _ k) (Nat.le_refl _),
   fun W b k => IpDer.blocksLoop_eq W ▸ FuelFree.itemsLoop_fuel _ (FuelFree.ipBlock_shrinks W) _ _ b (Nat.le_add_right _ k) (Nat.le_refl _),
   fun maxLen customer b last n k => FuelFree.provLoop_fuel maxLen customer _ _ b last n (Nat.le_add_right _ k) (Nat.le_refl _),
   fun b v4 v6 k => FuelFree.famLoop_fuel _ _ b v4 v6 (Nat.le_add_right _ k) (Nat.le_refl _),
   fun ber strict b p k => FuelFree.parseLoopM_fuel ber strict _ _ b p (Nat.le_add_right _ k) (Nat.le_refl _),
   fun b k => FuelFree.skipComments_fuel _ _ b (Nat.le_add_right _ k) (Nat.le_refl _),
   fun b acc k => FuelFree.takeUris_fuel _ _ b acc (Nat.lt_add_right k (Nat.lt_succ_self _)) (Nat.lt_succ_self _)⟩

/-- a TAL line and what follows it are together one octet (the line feed) shorter than the text -/
theorem tal_lines_shrink (b l r : Bytes) (h : Tal.splitLine b = some (l, r)) : l.length + r.length + 1 = b.length :=
  FuelFree.splitLine_size b l r h

/-- Every octet string a strict decoder accepts is accepted by the relaxed
decoder with the same result — certificates, signed objects (also with the typed content check), identity
certificates, signed messages, and the walk over a message CRL's revocation list.  48 generated lemmas
(`Gen/BerMonoGen.lean`: for every definition, "the DER side did not refuse → the BER side returns the same"),
on top of the reader-level facts of `der_values_are_read_in_ber`. -/
theorem relaxed_extends_strict :
    (∀ b d, CertDer.decodeCert b = some d → CertDer.decodeCertM true b = some d) ∧
    (∀ b o, CmsDer.decodeSigObj b = some o → CmsDer.decodeSigObjM true b = some o) ∧
    (∀ ty b o, CmsDer.decodeTyped ty b = some o → CmsDer.decodeTypedM true ty b = some o) ∧
    (∀ b d, SigMsgDer.decodeIdCert b = some d → SigMsgDer.decodeIdCertM true b = some d) ∧
    (∀ b m, SigMsgDer.decodeSigMsg b = some m → SigMsgDer.decodeSigMsgM true b = some m) ∧
    (∀ cap l, SigMsgDer.msgRevokedSerials cap = some l → SigMsgDer.msgRevokedSerialsM true cap = some l) :=
  ⟨fun b _ h => (CertDer.decodeCert_monoEq b (h ▸ rfl)).trans h,
   fun b _ h => (CmsDer.decodeSigObj_monoEq b (h ▸ rfl)).trans h,
   fun ty b _ h => (CmsDer.decodeTyped_monoEq ty b (h ▸ rfl)).trans h,
   fun b _ h => (SigMsgDer.decodeIdCert_monoEq b (h ▸ rfl)).trans h,
   fun b _ h => (SigMsgDer.decodeSigMsg_monoEq b (h ▸ rfl)).trans h,
   fun cap _ h => (SigMsgDer.msgRevokedSerials_monoEq cap (h ▸ rfl)).trans h⟩

/-- Manifests, ROAs and ASPAs decoded in either mode (`Manifest::decode`, `Roa::decode`, `Aspa::decode` with
`strict` true or false): the content was accepted by the content decoder — which runs in DER mode whatever the
envelope's mode — so the file list, the prefix lists and the provider set can be walked without failure
(`FileListIter`, `iter_uris`, `RoaIpAddressIter`, `ProviderAsIter` and their `unwrap()`s). -/
theorem typed_objects_accessors_either_mode (ber : Bool) (b : Bytes) (o : CmsDer.SigObjD) (base : Uri.Rsync) :
    (CmsDer.decodeTypedM ber "mft" b = some o →
      ∃ m es us, Manifest.decodeContent o.content = some m ∧ m.iter = some es ∧ es.length = m.len ∧
        Manifest.iterUris m base = some us ∧ us.length = m.len) ∧
    (CmsDer.decodeTypedM ber "roa" b = some o →
      ∃ c l4 l6, Roa.decodeContent o.content = some c ∧ Roa.iter c.v4 = some l4 ∧ Roa.iter c.v6 = some l6) ∧
    (CmsDer.decodeTypedM ber "aspa" b = some o →
      ∃ a ps, Roa.decodeAspa Consts.aspaObjMaxLen o.content = some a ∧ Roa.iterProviders a.providers = some ps ∧
        ps.length = a.count) := by
  refine ⟨fun h => ?_, fun h => ?_, fun h => ?_⟩
  · obtain ⟨m, es, us, hm, h1, h2, _, _, g2, g3, _⟩ := C14.manifest_object_octets_either_mode ber b o base h
    exact ⟨m, es, us, hm, h1, h2, g2, g3⟩
  · obtain ⟨c, hm⟩ := Option.isSome_iff_exists.mp ((CmsDer.decodeTypedM_content ber _ b o h).1 rfl)
    obtain ⟨l4, l6, h4, h6, _⟩ := C05.roa_decoded_iterates _ c hm
    exact ⟨c, l4, l6, hm, h4, h6⟩
  · obtain ⟨a, hm⟩ := Option.isSome_iff_exists.mp ((CmsDer.decodeTypedM_content ber _ b o h).2.1 rfl)
    obtain ⟨ps, hp, hl, _⟩ := C05.aspa_decoded_iterates _ _ a hm
    exact ⟨a, ps, hm, hp, hl⟩

/-- The round trips of C05 are stated for the strict
decoders; with `strict_is_the_der_instance` and `relaxed_extends_strict` they hold for `strict = false` as well: a
signed object around a written certificate, and a signed protocol message with its identity certificate and CRL,
decode to the same values whichever mode the reader asks for. -/
theorem written_objects_read_back_in_either_mode (ber : Bool) :
    (∀ (ct content sid attrs md sig csig : Bytes) (st : X509.Civil) (d : CertDer.Decoded),
      CertEnc.WF d → CertDer.Forest d.issuer → CertDer.Forest d.subject → CertDer.oidOk ct = true → sid.length = 20 →
      SigObj.parseAttrs true attrs = some (ct, md, st) →
      CmsDer.decodeSigObjM ber (CmsEnc.encodeSigObj ct content (CertEnc.encodeCert d csig) sid attrs sig) =
        some { contentType := ct, content := content, cert := CertEnc.readBack d true csig, sid := sid, attrs := attrs,
               messageDigest := md, signingTime := st, signature := sig }) ∧
    (∀ (content sid attrs md sig csig lsig : Bytes) (st : X509.Civil)
      (c : SigMsgDer.IdCertD) (l : SigMsgDer.MsgCrlD) (rest : Bytes),
      IdEnc.WF c → CertDer.Forest c.issuer → CertDer.Forest c.subject →
      SigMsgEnc.WFCrl l → CertDer.Forest l.issuer → sid.length = 20 →
      SigObj.parseAttrs false attrs = some (Consts.oidProtocolContentType, md, st) →
      SigMsgDer.decodeSigMsgM ber (SigMsgEnc.encodeSigMsg content (IdEnc.encodeIdCert c csig) (SigMsgEnc.encodeMsgCrl l lsig) sid attrs sig ++ rest) =
        some { content := content, cert := IdEnc.readBack c (IdEnc.encodeTbsId c) csig,
               crl := { l with innerParam := true, outerParam := true, tbs := SigMsgEnc.encodeTbsMsgCrl l, signature := lsig },
               sid := sid, attrs := attrs, messageDigest := md, signature := sig }) := by
  refine ⟨?_, ?_⟩
  · intro ct content sid attrs md sig csig st d h hi hs hct hsid hp
    have := C05.sigobj_with_cert_roundtrip ct content sid attrs md sig csig st d h hi hs hct hsid hp
    cases ber with
    | false => rw [CmsDer.decodeSigObjM_false]; exact this
    | true => exact relaxed_extends_strict.2.1 _ _ this
  · intro content sid attrs md sig csig lsig st c l rest hc hci hcs hl hli hsid hp
    have := C05.sigmsg_roundtrip content sid attrs md sig csig lsig st c hc hci hcs l hl hli hsid hp rest
    cases ber with
    | false => rw [SigMsgDer.decodeSigMsgM_false]; exact this
    | true => exact relaxed_extends_strict.2.2.2.2.1 _ _ this

/-! the extension is proper: an indefinite-length SEQUENCE holding a NULL, an over-long length, a constructed OCTET
STRING in two segments and the truth value 0x01 are read in BER mode and refused in DER mode -/
example : Der.readTlvM true [0x30, 0x80, 0x05, 0x00, 0x00, 0x00, 0xAA] = some (0x30, [0x05, 0x00], [0xAA]) ∧
    Der.readTlv [0x30, 0x80, 0x05, 0x00, 0x00, 0x00, 0xAA] = none :=
  ⟨rfl, rfl⟩
example : Der.readTlvM true [0x04, 0x81, 0x01, 0x07] = some (0x04, [0x07], []) ∧ Der.readTlv [0x04, 0x81, 0x01, 0x07] = none :=
  ⟨rfl, rfl⟩
example : Der.takePrimM true Der.tagOctetString [0x24, 0x06, 0x04, 0x01, 0x0A, 0x04, 0x01, 0x0B] = some ([0x0A, 0x0B], []) ∧
    Der.takePrim Der.tagOctetString [0x24, 0x06, 0x04, 0x01, 0x0A, 0x04, 0x01, 0x0B] = none :=
  ⟨rfl, rfl⟩
example : (match CertDer.takeOptBoolM true [0x01, 0x01, 0x01] with | .ok x _ => x | _ => false) = true ∧
    (match CertDer.takeOptBool [0x01, 0x01, 0x01] with | .bad => true | _ => false) = true :=
  ⟨rfl, rfl⟩

end Rpki.Props.C04
