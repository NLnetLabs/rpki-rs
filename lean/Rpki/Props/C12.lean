/-
C12 — URIs: parsed form is faithful, equality/hash agree, path algebra is consistent, `path_into_dir` (https),
the canonical module (rsync).
Only property theorems and non-vacuity examples; lemmas are in Rpki/Proofs/Uri*.lean.
-/
import Rpki.Proofs.UriHttps
import Rpki.Proofs.UriCanon
namespace Rpki.C12
open Rpki.Uri

/-- An accepted URI keeps its text unchanged and satisfies the representation invariant; conversely
re-parsing the text of any value satisfying the invariant gives back exactly that value. -/
theorem rsync_parse_iff (b : Bytes) (u : Rsync) :
    Rsync.fromBytes b = .ok u ↔ u.bytes = b ∧ u.Inv := Rsync.fromBytes_ok_iff b u

/-- scheme / authority / module / path accessors recompose to the text. -/
theorem rsync_recompose (b : Bytes) (u : Rsync) (h : Rsync.fromBytes b = .ok u) :
    b = b.take 8 ++ (u.authority ++ slash :: (u.moduleName ++ slash :: u.path)) ∧
    eqIgnoreCase (b.take 8) rsyncScheme = true := by
  obtain ⟨rfl, hi⟩ := (Rsync.fromBytes_ok_iff b u).1 h
  exact ⟨hi.layout.bytes, (startsWithIgnoreCase_iff.1 hi.2.1).2⟩

/-- only permitted characters; authority and module are non-empty, slash-free, not dot segments;
the path has no empty segment except a final one and no dot segments. -/
theorem rsync_chars_segments (b : Bytes) (u : Rsync) (h : Rsync.fromBytes b = .ok u) :
    (∀ c ∈ b, isUriAscii c = true) ∧ goodSeg u.authority ∧ goodSeg u.moduleName ∧
    slash ∉ u.authority ∧ slash ∉ u.moduleName ∧
    (∀ s ∈ (split u.path).dropLast, goodSeg s) ∧
    (∀ s, (split u.path).getLast? = some s → s = [] ∨ goodSeg s) := by
  obtain ⟨rfl, hi⟩ := (Rsync.fromBytes_ok_iff b u).1 h
  have V := hi.valid
  have := (checkItems_ok_iff _ (split_ne_nil u.path)).1 V.path_ok
  exact ⟨List.all_eq_true.1 hi.1, V.auth_good, V.md_good, V.auth_noslash, V.md_noslash, this.1, this.2⟩

/-- equality is an equivalence on valid URIs … -/
theorem rsync_eq_refl (u : Rsync) (hu : u.Inv) : u.eq u = true :=
  (Rsync.eq_iff u u hu hu).2 (EqAt.refl _ _)
theorem rsync_eq_symm (u o : Rsync) (hu : u.Inv) (ho : o.Inv) (h : u.eq o = true) : o.eq u = true :=
  (Rsync.eq_iff o u ho hu).2 ((Rsync.eq_iff u o hu ho).1 h).symm
theorem rsync_eq_trans (u o w : Rsync) (hu : u.Inv) (ho : o.Inv) (hw : w.Inv)
    (h1 : u.eq o = true) (h2 : o.eq w = true) : u.eq w = true :=
  (Rsync.eq_iff u w hu hw).2 (((Rsync.eq_iff u o hu ho).1 h1).trans ((Rsync.eq_iff o w ho hw).1 h2))

/-- … compares scheme and authority ignoring case and the rest exactly … -/
theorem rsync_eq_iff (u o : Rsync) (hu : u.Inv) (ho : o.Inv) :
    u.eq o = true ↔ u.moduleStart = o.moduleStart ∧
      (u.bytes.take u.moduleStart).map toLower = (o.bytes.take o.moduleStart).map toLower ∧
      u.bytes.drop u.moduleStart = o.bytes.drop o.moduleStart := Rsync.eq_iff u o hu ho

/-- … and equal URIs feed the same bytes to the hasher. -/
theorem rsync_hash_of_eq (u o : Rsync) (hu : u.Inv) (ho : o.Inv) (h : u.eq o = true) :
    u.hashKey = o.hashKey := by
  have ⟨_, b, c⟩ := (Rsync.eq_iff u o hu ho).1 h
  rw [Rsync.hashKey, Rsync.hashKey, b, c]

/-- The result of `join` is a valid URI that re-parses to exactly the same value
(same text, same authority/module offsets). -/
theorem rsync_join_reparse (u v : Rsync) (p : Bytes) (hu : u.Inv) (hj : u.join p = .ok v) :
    Rsync.fromBytes v.bytes = .ok v ∧ v.moduleStart = u.moduleStart ∧ v.pathStart = u.pathStart :=
  ⟨Rsync.fromBytes_of_inv v (Rsync.join_inv u p v hu hj), Rsync.join_offsets hj⟩

/-- The result of `parent` is a valid URI that re-parses to exactly the same value. -/
theorem rsync_parent_reparse (u v : Rsync) (hu : u.Inv) (hp : u.parent = some v) :
    Rsync.fromBytes v.bytes = .ok v :=
  Rsync.fromBytes_of_inv v (Rsync.parent_inv u v hu hp)

/-- Whenever `relative_to` reports a non-empty path, joining that path to the other URI gives back
the original (up to URI equality). -/
theorem rsync_relativeTo_join (u o : Rsync) (hu : u.Inv) (ho : o.Inv) (p : Bytes)
    (h : u.relativeTo o = some p) (hp : p ≠ []) : ∃ v, o.join p = .ok v ∧ v.eq u = true := by
  have ⟨hm, e⟩ := (Rsync.relativeTo_eq_some_ne u o hp).1 h
  -- `p` is a legal relative path: it is a tail of `u`'s text, after a slash unless `o`'s path is empty
  have hchars : checkUriAscii p = true := by
    have := hu.valid.ascii_path
    rw [e, checkUriAscii_append, Bool.and_eq_true] at this
    exact this.2
  have hcheck : checkPath p = .ok () :=
    (checkItems_dirPath_append ho.valid.path_ok p).1 (e ▸ hu.valid.path_ok)
  have hj : o.join p = .ok { o with bytes :=
      (if endsWithSlash o.bytes then o.bytes else o.bytes ++ [slash]) ++ p } :=
    (Rsync.join_ok_iff hp).2 ⟨hchars, hcheck, rfl⟩
  refine ⟨_, hj, ?_⟩
  have ⟨hpath, hmod⟩ := Rsync.join_path o _ p ho hj hp
  exact (Rsync.eq_iff_eqModule _ u (Rsync.join_inv o p _ ho hj) hu).2
    ⟨Rsync.eqModule_trans _ _ _ hmod (Rsync.eqModule_symm _ _ hm), hpath.trans e.symm⟩

theorem https_parse_iff (b : Bytes) (u : Https) :
    Https.fromBytes b = .ok u ↔ u.uri = b ∧ u.Inv := Https.fromBytes_ok_iff b u

theorem https_recompose (b : Bytes) (u : Https) (h : Https.fromBytes b = .ok u) :
    b = b.take 8 ++ (u.authority ++ u.path) := by
  have ⟨e, hi⟩ := (Https.fromBytes_ok_iff b u).1 h
  have := Https.recompose_of_inv hi; rw [e] at this; exact this

/-- `==` for HTTPS URIs is an equivalence (no invariant needed: the definition is symmetric). -/
theorem https_eq_refl (u : Https) : u.eq u = true := (Https.eq_iff u u).2 (EqAt.refl _ _)
theorem https_eq_symm (u o : Https) (h : u.eq o = true) : o.eq u = true :=
  (Https.eq_iff o u).2 ((Https.eq_iff u o).1 h).symm
theorem https_eq_trans (u o w : Https) (h1 : u.eq o = true) (h2 : o.eq w = true) : u.eq w = true :=
  (Https.eq_iff u w).2 (((Https.eq_iff u o).1 h1).trans ((Https.eq_iff o w).1 h2))
theorem https_hash_of_eq (u o : Https) (h : u.eq o = true) : u.hashKey = o.hashKey := by
  have ⟨_, b, c⟩ := (Https.eq_iff u o).1 h
  rw [Https.hashKey, Https.hashKey, b, c]

/-- `join` yields a valid URI that re-parses to exactly the same value (hence with the same authority). -/
theorem https_join_reparse (u v : Https) (p : Bytes) (hu : u.Inv) (hj : u.join p = .ok v) :
    Https.fromBytes v.uri = .ok v ∧ v.pathIdx = u.pathIdx :=
  ⟨(Https.fromBytes_ok_iff _ _).2 ⟨rfl, Https.join_inv u v p hu hj⟩, Https.join_pathIdx hj⟩

/-- `relative_to` reports the empty path exactly for URIs of the same module whose paths are equal
up to one trailing slash. -/
theorem rsync_relativeTo_empty_iff (u o : Rsync) (hu : u.Inv) (ho : o.Inv) :
    u.relativeTo o = some [] ↔ u.eqModule o = true ∧ stripSlash u.path = stripSlash o.path :=
  Rsync.relativeTo_empty_iff u o hu ho

theorem rsync_isParentOf_irrefl (u : Rsync) : u.isParentOf u = false := Rsync.isParentOf_irrefl u

theorem rsync_isParentOf_trans (u o w : Rsync) (h1 : u.isParentOf o = true) (h2 : o.isParentOf w = true) :
    u.isParentOf w = true := Rsync.isParentOf_trans u o w h1 h2

theorem rsync_isParentOf_congr (u u' o o' : Rsync) (hu : u.Inv) (hu' : u'.Inv) (ho : o.Inv) (ho' : o'.Inv)
    (h1 : u.eq u' = true) (h2 : o.eq o' = true) : u.isParentOf o = u'.isParentOf o' :=
  Rsync.isParentOf_congr u u' o o' hu hu' ho ho' h1 h2

/-- `join(base, p)` lies beneath `base`: relative to the base it is exactly `p`, and for a
non-empty `p` the base is a parent of the result. -/
theorem rsync_join_beneath (u v : Rsync) (p : Bytes) (hu : u.Inv) (hj : u.join p = .ok v) :
    v.relativeTo u = some p ∧ (p ≠ [] → u.isParentOf v = true) := Rsync.join_beneath u v p hu hj

/-- A parent is a parent of its child. -/
theorem rsync_parent_isParentOf (u v : Rsync) (hu : u.Inv) (hp : u.parent = some v) :
    v.isParentOf u = true := by
  obtain ⟨q, r, Lv, e, hr, hq⟩ := hu.layout.parent hu.valid.path_ok hp
  exact (Rsync.isParentOf_iff v u).2 ⟨(hu.layout.eqModule_iff Lv).2 ⟨rfl, rfl, rfl⟩, r, hr,
    by rw [Lv.path_eq, dirPath_of_dir hq]; exact e⟩

/-- **`path_into_dir`** yields a valid URI that re-parses to an equal value with the same authority; its path is a
directory path; doing it twice changes nothing; and it only ever appends one slash. -/
theorem https_pathIntoDir (u : Https) (hu : u.Inv) :
    Https.fromBytes (u.pathIntoDir).uri = .ok u.pathIntoDir ∧ (u.pathIntoDir).pathIdx = u.pathIdx ∧
    (u.pathIntoDir).pathIntoDir = u.pathIntoDir ∧
    ((u.pathIntoDir).uri = u.uri ∨ (u.pathIntoDir).uri = u.uri ++ [slash]) := by
  cases hd : u.pathIsDir with
  | true =>
    have e : u.pathIntoDir = u := if_pos hd
    rw [e]
    exact ⟨(Https.fromBytes_ok_iff _ _).2 ⟨rfl, hu⟩, rfl, e, Or.inl rfl⟩
  | false =>
    have e : u.pathIntoDir = { u with uri := u.uri ++ [slash] } := if_neg (by rw [hd]; decide)
    have ⟨_, hes⟩ := Bool.or_eq_false_iff.1 hd
    -- the same value as joining the empty path onto a non-directory path
    have hj : u.join [] = .ok { u with uri := u.uri ++ [slash] } :=
      Https.join_ok_iff.2 ⟨rfl, by rw [hes, if_neg (by decide), List.append_nil]⟩
    have hr := https_join_reparse u _ [] hu hj
    rw [e]
    refine ⟨hr.1, hr.2, if_pos ?_, Or.inr rfl⟩
    -- a second application finds a path that ends in a slash
    show ((Https.path _).isEmpty || endsWithSlash ((u.uri ++ [slash]).drop u.pathIdx)) = true
    rw [List.drop_append_of_le_length hu.pathIdx_le.2, endsWithSlash_snoc]
    exact Bool.or_true _

/-- The parent of an HTTPS URI is a valid URI that re-parses to the same value, with the same
authority. -/
theorem https_parent_reparse (u v : Https) (h : u.Inv) (hp : u.parent = some v) :
    Https.fromBytes v.uri = .ok v ∧ v.pathIdx = u.pathIdx :=
  have ⟨hi, he⟩ := Https.parent_inv u v h hp
  ⟨(Https.fromBytes_ok_iff _ _).2 ⟨rfl, hi⟩, he⟩

def ex1 : Bytes := [114, 115, 121, 110, 99, 58, 47, 47, 104, 47, 109, 47, 97, 47, 98]   -- "rsync://h/m/a/b"
def ex2 : Bytes := [104, 116, 116, 112, 115, 58, 47, 47, 101, 120, 97, 109, 112, 108, 101, 46, 99, 111, 109]   -- "https://example.com"

example : (Rsync.fromBytes ex1).toOption = some ⟨ex1, 10, 12⟩ := by decide +kernel
example : (Rsync.mk ex1 10 12).parent = some ⟨ex1.take 14, 10, 12⟩ := by decide +kernel
example : ((Rsync.mk ex1 10 12).join [120]).toOption = some ⟨ex1 ++ [47, 120], 10, 12⟩ := by decide +kernel
example : (Https.fromBytes ex2).toOption = some ⟨ex2, 19⟩ := by decide +kernel
example : ((Https.mk ex2 19).join [102]).toOption = some ⟨ex2 ++ [47, 102], 19⟩ := by decide +kernel
example : (Rsync.mk (ex1 ++ [47, 120]) 10 12).relativeTo ⟨ex1, 10, 12⟩ = some [120] := by decide +kernel

/-- The canonical module of an accepted URI is itself an accepted URI with an empty path in the same
module; it is the module text with the authority in lower case (scheme as written, module name
exactly as written). -/
theorem canonical_module_is_the_module (b : Bytes) (u : Rsync) (h : Rsync.fromBytes b = .ok u) :
    (∃ v, Rsync.fromBytes u.canonicalModule = .ok v ∧ v.path = [] ∧ v.eqModule u = true) ∧
    u.canonicalModule.drop (8 + u.authority.length) = slash :: (u.moduleName ++ [slash]) ∧
    slice u.canonicalModule 8 (8 + u.authority.length) = u.authority.map toLower :=
  have hi := (Rsync.inv_of_fromBytes b u h).2
  ⟨⟨_, Rsync.fromBytes_mk _ _ _ hi.canonicalModule_inv, hi.layout.canon.path_eq, hi.canonicalModule_eqModule⟩,
    hi.canonicalModule_shape.2⟩

/-- URIs with the same canonical module are in the same module. The converse holds for URIs written
with the lower-case scheme and is false otherwise (`RSYNC://h/m/` and `rsync://h/m/` are in the same
module but keep their schemes as written). -/
theorem canonical_module_identifies_modules (b b' : Bytes) (u o : Rsync) (h : Rsync.fromBytes b = .ok u)
    (h' : Rsync.fromBytes b' = .ok o) :
    (u.canonicalModule = o.canonicalModule → u.eqModule o = true) ∧
    (u.bytes.take 8 = rsyncScheme → o.bytes.take 8 = rsyncScheme → u.eqModule o = true →
      u.canonicalModule = o.canonicalModule) :=
  have hu := (Rsync.inv_of_fromBytes b u h).2
  have ho := (Rsync.inv_of_fromBytes b' o h').2
  ⟨fun hc => ((Rsync.canonicalModule_eq_iff hu ho).1 hc).1, fun hsu hso he =>
    (Rsync.canonicalModule_eq_iff hu ho).2
      ⟨he, by rw [Rsync.canonScheme, Rsync.canonScheme, hsu, hso, ite_self, ite_self]⟩⟩

theorem canonical_module_keeps_scheme_case :
    ∃ u o, Rsync.fromBytes exUpperScheme = .ok u ∧ Rsync.fromBytes exLowerScheme = .ok o ∧
      u.eqModule o = true ∧ u.canonicalModule ≠ o.canonicalModule :=
  ⟨⟨exUpperScheme, 10, 12⟩, ⟨exLowerScheme, 10, 12⟩, Rsync.fromBytes_of_toOption (by decide +kernel),
    Rsync.fromBytes_of_toOption (by decide +kernel), by decide +kernel, by decide +kernel⟩

end Rpki.C12

namespace Rpki.Uri

def exA : Bytes := [114, 115, 121, 110, 99, 58, 47, 47, 104, 47, 109, 47, 97]   -- "rsync://h/m/a"
def exAs : Bytes := exA ++ [47]                                                    -- "rsync://h/m/a/"
def exAb : Bytes := exA ++ [47, 98]                                                -- "rsync://h/m/a/b"

example : (Rsync.fromBytes exA).toOption = some ⟨exA, 10, 12⟩ := by decide +kernel
example : (Rsync.fromBytes exAs).toOption = some ⟨exAs, 10, 12⟩ := by decide +kernel

/-- `relative_to` also reports the empty path when `self` has one trailing slash *more* than `other`:
"rsync://h/m/a/" relative to "rsync://h/m/a" is `Some("")`, although the path "a/" is not the stripped
path "a" of the other.  So "`u.path = stripSlash o.path`" alone is not the exact condition; the exact
one is `stripSlash u.path = stripSlash o.path` (`Rsync.relativeTo_empty_iff`). -/
example : (Rsync.mk exAs 10 12).relativeTo ⟨exA, 10, 12⟩ = some [] ∧
    (Rsync.mk exAs 10 12).path ≠ stripSlash (Rsync.mk exA 10 12).path := by decide +kernel

example : (Rsync.mk exA 10 12).relativeTo ⟨exAs, 10, 12⟩ = some [] := by decide +kernel
example : (Rsync.mk exA 10 12).isParentOf ⟨exAb, 10, 12⟩ = true ∧
    (Rsync.mk exAs 10 12).isParentOf ⟨exAb, 10, 12⟩ = true ∧
    (Rsync.mk exA 10 12).isParentOf ⟨exAs, 10, 12⟩ = false ∧
    (Rsync.mk exAs 10 12).isParentOf ⟨exA, 10, 12⟩ = false := by decide +kernel
example : (Rsync.mk exAb 10 12).parent = some ⟨exAs, 10, 12⟩ := by decide +kernel
example : ((Rsync.mk exA 10 12).join [98]).toOption = some ⟨exAb, 10, 12⟩ := by decide +kernel

end Rpki.Uri
