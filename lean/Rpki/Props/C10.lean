/-
  C10 — CA protocol CMS is accepted iff signed under the peer key, current and not revoked.
  Property theorems over `Rpki/Model/SigMsg.lean` (validation), and on octets over the decoder
  `SigMsgDer` and the writers `SigMsgEnc`, `IdEnc`; the signature-input fact comes from C02.
-/
import Rpki.Props.C02
import Rpki.Proofs.CrlDerLemmas
import Rpki.Proofs.IdEncLemmas
import Rpki.Proofs.SigMsgEncLemmas
namespace Rpki.Props.C10
set_option autoImplicit false
open Rpki.SigObj Rpki.SigMsg Rpki.Der
abbrev Bytes := List Nat

theorem msg_sigVerifies_iff (m : Msg) (hl : m.attrs.length < 65536) :
    SigMsg.sigVerifies m = true ↔ m.sigKeyOk = true ∧ m.sigInput = tlv 0x31 m.attrs := by
  unfold SigMsg.sigVerifies
  rw [C02.encodeVerify_is_der m.attrs hl]
  simp

theorem windowOk_iff (v : X509.Validity) (when : Int) : windowOk v when = true ↔ v.nb ≤ when ∧ when ≤ v.na :=
  X509.verifyAt_accepts_iff v when

theorem akiOk_iff (aki : Option Bytes) (peer : Bytes) : akiOk aki peer = true ↔ ∀ a, aki = some a → a = peer := by
  unfold akiOk
  cases aki with
  | none => simp
  | some a => simp

theorem eeValid_iff (c : IdFacts) (peer : Bytes) (when : Int) :
    eeValid c peer when = true ↔
      c.ski = c.keyId ∧ (c.validity.nb ≤ when ∧ when ≤ c.validity.na) ∧
      (∀ a, c.aki = some a → a = peer) ∧ c.basicCa ≠ some true ∧ c.sigOk = true := by
  simp only [eeValid, Bool.and_eq_true, beq_iff_eq, windowOk_iff, akiOk_iff, bne_iff_ne, ne_eq, and_assoc]

theorem crlValid_iff (c : CrlFacts) (peer : Bytes) (when : Int) :
    crlValid c peer when = true ↔
      c.algMatch = true ∧ c.sigOk = true ∧ c.thisUpdate ≤ when ∧ when ≤ c.nextUpdate ∧
      (∀ a, c.aki = some a → a = peer) := by
  simp only [crlValid, Bool.and_eq_true, Bool.not_eq_true', decide_eq_false_iff_not, akiOk_iff, gt_iff_lt, Int.not_lt,
    and_assoc]

/-- A signed protocol message validates against a peer key at a time iff:
it carries the protocol content type, its signed attributes contain exactly one content-type (equal
to it), message-digest and signing-time (other attributes are admitted and stay inside the signed
bytes), the digest attribute is the digest of the content, the signature was made with the EE key
over the DER SET OF encoding of all signed attributes, the signer identifier is the EE
certificate's key identifier which is the hash of its key, the EE certificate is signed by the
peer key, current and not a CA (AKI, if present, names the peer key), the CRL is signed by the
peer key, current (AKI as before), and does not list the EE certificate's serial number. -/
theorem validateAt_iff (digest : Bytes → Bytes) (m : Msg) (peer : Bytes) (when : Int) :
    SigMsg.validateAt digest m peer when = true ↔
      m.contentType = protocolCt ∧
      (∃ md st, parseAttrs false m.attrs = some (m.contentType, md, st) ∧ digest m.content = md) ∧
      m.sid = m.ee.ski ∧ m.sigKeyOk = true ∧ m.sigInput = tlv 0x31 m.attrs ∧
      eeValid m.ee peer when = true ∧ crlValid m.crl peer when = true ∧
      m.ee.serial ∉ m.crl.revoked := by
  unfold SigMsg.validateAt SigMsg.decodeOk
  by_cases hct : m.contentType = protocolCt
  swap
  · rw [if_pos hct]; exact ⟨nofun, fun h => absurd h.1 hct⟩
  rw [if_neg (not_not_intro hct)]
  cases hp : parseAttrs false m.attrs with
  | none => exact ⟨nofun, fun ⟨_, ⟨_, _, h, _⟩, _⟩ => nomatch h⟩
  | some t =>
    obtain ⟨ct, md, st⟩ := t
    have hl := C02.parseAttrs_len hp
    dsimp only
    by_cases hc : ct = m.contentType
    · subst hc
      rw [if_neg (not_not_intro rfl)]
      simp only [Bool.and_eq_true, beq_iff_eq, msg_sigVerifies_iff m hl, Bool.not_eq_true', List.contains_eq_mem,
        decide_eq_false_iff_not]
      -- what is left of the model's `&&` chain, nested to the left: signer identifier `a`, digest `b`, signature `c d`,
      -- EE certificate `e`, CRL `f`, not revoked `g`
      constructor
      · rintro ⟨⟨⟨⟨⟨a, b⟩, c, d⟩, e⟩, f⟩, g⟩
        exact ⟨hct, ⟨md, st, rfl, b⟩, a, c, d, e, f, g⟩
      · rintro ⟨_, ⟨md', st', e1, b⟩, a, c, d, e, f, g⟩
        injection e1 with e1; injection e1 with _ e1; injection e1 with e1 _
        subst e1
        exact ⟨⟨⟨⟨⟨a, b⟩, c, d⟩, e⟩, f⟩, g⟩
    · rw [if_pos hc]
      refine ⟨nofun, fun ⟨_, ⟨_, _, e1, _⟩, _⟩ => absurd ?_ hc⟩
      injection e1 with e1; injection e1 with e1 _

theorem single_fault_rejects (digest : Bytes → Bytes) (m : Msg) (peer : Bytes) (when : Int)
    (hbad : m.sigKeyOk = false ∨ m.sigInput ≠ tlv 0x31 m.attrs ∨ m.sid ≠ m.ee.ski ∨
      (∀ md st, parseAttrs false m.attrs = some (m.contentType, md, st) → digest m.content ≠ md) ∨
      m.ee.sigOk = false ∨ when < m.ee.validity.nb ∨ m.ee.validity.na < when ∨ m.ee.basicCa = some true ∨
      m.ee.ski ≠ m.ee.keyId ∨
      m.crl.sigOk = false ∨ when < m.crl.thisUpdate ∨ m.crl.nextUpdate < when ∨
      m.ee.serial ∈ m.crl.revoked) :
    SigMsg.validateAt digest m peer when = false := by
  cases h : SigMsg.validateAt digest m peer when with
  | false => rfl
  | true =>
    obtain ⟨_, ⟨md, st, hp, hd⟩, hsid, hk, hi, hee, hcrl, hrev⟩ := (validateAt_iff digest m peer when).1 h
    obtain ⟨e1, ⟨e2, e3⟩, _, e5, e6⟩ := (eeValid_iff m.ee peer when).1 hee
    obtain ⟨_, c2, c3, c4, _⟩ := (crlValid_iff m.crl peer when).1 hcrl
    rcases hbad with hb | hb | hb | hb | hb | hb | hb | hb | hb | hb | hb | hb | hb
    · rw [hk] at hb; cases hb
    · exact absurd hi hb
    · exact absurd hsid hb
    · exact absurd hd (hb md st hp)
    · rw [e6] at hb; cases hb
    · exact absurd e2 (Int.not_le.2 hb)
    · exact absurd e3 (Int.not_le.2 hb)
    · exact absurd hb e5
    · exact absurd e1 hb
    · rw [c2] at hb; cases hb
    · exact absurd c3 (Int.not_le.2 hb)
    · exact absurd c4 (Int.not_le.2 hb)
    · exact absurd hb hrev

/-- Messages created by the library (signed attributes `attrs` carrying the protocol content
type, the digest of the data and a signing time; one-off EE key `eeKey`; EE certificate and empty
CRL issued by `issuer` for the validity `v`) validate against a peer key exactly when that key is
the issuing key and the evaluation time lies inside the validity. -/
theorem created_validates_iff (digest : Bytes → Bytes) (data : Bytes) (v : X509.Validity)
    (issuer peer eeKey serial attrs : Bytes) (st : X509.Civil)
    (hattrs : parseAttrs false attrs = some (protocolCt, digest data, st)) (when : Int) :
    SigMsg.validateAt digest (created digest data v issuer peer eeKey serial attrs) peer when = true ↔
      issuer = peer ∧ v.nb ≤ when ∧ when ≤ v.na := by
  have hl := C02.parseAttrs_len hattrs
  rw [validateAt_iff, eeValid_iff, crlValid_iff]
  simp only [created, C02.encodeVerify_is_der attrs hl, Option.getD_some, beq_iff_eq, hattrs]
  constructor
  · rintro ⟨_, _, _, _, _, ⟨_, hv, _, _, hs⟩, _, _⟩
    exact ⟨hs, hv.1, hv.2⟩
  · rintro ⟨hi, h1, h2⟩
    subst hi
    simp [h1, h2]

/-! ### the same on octets, in either decoding mode

`Model/SigMsgDer.lean` reads a whole protocol message from its octets — ContentInfo, SignedData, the
identity certificate, the CRL with the module's own entry reader, the signed attributes in the relaxed
attribute mode (tied to `SignedMessage::decode` and `IdCert::decode` by the `smsgd` / `idcd` operations and
by every C10 case, whose model verdict is computed from the octets).  Acceptance implies every condition of
the statement for what was read; the inputs left outside are the three verdicts of the signature primitive
and the octets the message signature was made over.

The protocol wrappers `ProvisioningCms::decode` / `PublicationCms::decode` read the message in relaxed (BER) mode.
`decodeSigMsgM ber` is the mode-parametrized decoder (`Gen/BerModel.lean`; `ber = false` is `decodeSigMsg`, a
theorem), tied to the library by the `msgr` / `smsgdr` operations. -/
section EitherMode
open Rpki.SigMsgDer

theorem accepted_message_octets_either_mode (ber : Bool) (b : Bytes) (m : SigMsgD) (hd : decodeSigMsgM ber b = some m)
    (sigKeyOk eeSigOk crlSigOk : Bool) (sigInput peer : Bytes) (when : Int)
    (h : SigMsg.validateAt Sha.sha256N (toMsgM ber m sigKeyOk sigInput eeSigOk crlSigOk) peer when = true) :
    Sha.sha256N m.content = m.messageDigest ∧ sigKeyOk = true ∧ sigInput = tlv 0x31 m.attrs ∧
    m.sid = m.cert.ski ∧ m.cert.ski = Sha.sha1N m.cert.keyBits ∧ eeSigOk = true ∧
    m.cert.validity.nb ≤ when ∧ when ≤ m.cert.validity.na ∧ (∀ a, m.cert.aki = some a → a = peer) ∧
    m.cert.basicCa ≠ some true ∧
    m.crl.innerParam = m.crl.outerParam ∧ crlSigOk = true ∧
    CertDer.civilToEpoch m.crl.thisUpdate ≤ when ∧ when ≤ CertDer.civilToEpoch m.crl.nextUpdate ∧
    (∀ a, m.crl.aki = some a → a = peer) ∧
    (∀ l, msgRevokedSerialsM ber m.crl.revoked = some l → m.cert.serial ∉ l) := by
  obtain ⟨st, hp⟩ := decodeSigMsg_specM ber b m hd
  obtain ⟨_, ⟨md, st', h1, h2⟩, h3, h4, h5, h6, h7, h8⟩ := (validateAt_iff _ _ peer when).1 h
  obtain ⟨_, e, _⟩ := attrs_of_decoded hp h1
  obtain ⟨e1, e2, e3, e4, e5⟩ := (eeValid_iff _ peer when).1 h6
  obtain ⟨c1, c2, c3, c4, c5⟩ := (crlValid_iff _ peer when).1 h7
  refine ⟨e ▸ h2, h4, h5, h3, e1, e5, e2.1, e2.2, e3, e4, ?_, c2, c3, c4, c5, ?_⟩
  · exact eq_of_beq c1
  · intro l hl
    have : (toMsgM ber m sigKeyOk sigInput eeSigOk crlSigOk).crl.revoked = l := by
      show (msgRevokedSerialsM ber m.crl.revoked).getD [] = l
      rw [hl]; rfl
    rw [← this]; exact h8

end EitherMode

section Octets
open Rpki.SigMsgDer

theorem accepted_message_octets (b : Bytes) (m : SigMsgD) (hd : decodeSigMsg b = some m)
    (sigKeyOk eeSigOk crlSigOk : Bool) (sigInput peer : Bytes) (when : Int)
    (h : SigMsg.validateAt Sha.sha256N (toMsg m sigKeyOk sigInput eeSigOk crlSigOk) peer when = true) :
    Sha.sha256N m.content = m.messageDigest ∧ sigKeyOk = true ∧ sigInput = tlv 0x31 m.attrs ∧
    m.sid = m.cert.ski ∧ m.cert.ski = Sha.sha1N m.cert.keyBits ∧ eeSigOk = true ∧
    m.cert.validity.nb ≤ when ∧ when ≤ m.cert.validity.na ∧ (∀ a, m.cert.aki = some a → a = peer) ∧
    m.cert.basicCa ≠ some true ∧
    m.crl.innerParam = m.crl.outerParam ∧ crlSigOk = true ∧
    CertDer.civilToEpoch m.crl.thisUpdate ≤ when ∧ when ≤ CertDer.civilToEpoch m.crl.nextUpdate ∧
    (∀ a, m.crl.aki = some a → a = peer) ∧
    (∀ l, msgRevokedSerials m.crl.revoked = some l → m.cert.serial ∉ l) := by
  rw [← decodeSigMsgM_false] at hd
  rw [← toMsgM_false] at h
  rw [← msgRevokedSerialsM_false]
  exact accepted_message_octets_either_mode false b m hd sigKeyOk eeSigOk crlSigOk sigInput peer when h

end Octets

/-! ### created messages, on octets

`SignedMessage::create` as the writer models see it (`Model/SigMsgEnc.lean`, `Model/IdEnc.lean`: tied to the library
byte for byte by the `bytes sigmsg` / `bytes idcert` operations): an EE identity certificate for a one-off key with
the subject key identifier of that key, issued under the key with identifier `K` for the requested validity, not a
CA; a CRL for the same window under the same key with an empty list; signed attributes with the protocol content
type and the digest of the content.  Reading the written octets back and validating them is the statement's
"messages created by the library validate for every time within their validity and for no other key" — end to
end from the octets, the verdicts of the signature primitive being the only inputs. -/
section Created
open Rpki.SigMsgDer

theorem created_message_octets (content K attrs sig csig lsig : Bytes) (st : X509.Civil)
    (c : IdCertD) (hc : IdEnc.WF c) (hci : CertDer.Forest c.issuer) (hcs : CertDer.Forest c.subject)
    (l : MsgCrlD) (hl : SigMsgEnc.WFCrl l) (hli : CertDer.Forest l.issuer)
    (hski : c.ski = Sha.sha1N c.keyBits) (haki : c.aki = some K) (hbc : c.basicCa = none)
    (hlaki : l.aki = some K) (hrev : l.revoked = []) (hthis : l.thisUpdate = c.notBefore) (hnext : l.nextUpdate = c.notAfter)
    (hp : parseAttrs false attrs = some (Consts.oidProtocolContentType, Sha.sha256N content, st))
    (rest peer : Bytes) (when : Int) :
    ∃ m, decodeSigMsg (SigMsgEnc.encodeSigMsg content (IdEnc.encodeIdCert c csig) (SigMsgEnc.encodeMsgCrl l lsig)
          c.ski attrs sig ++ rest) = some m ∧
      (SigMsg.validateAt Sha.sha256N (toMsg m true (tlv 0x31 attrs) true true) peer when = true ↔
        (peer = K ∧ CertDer.civilToEpoch c.notBefore ≤ when ∧ when ≤ CertDer.civilToEpoch c.notAfter)) := by
  have hd := (SigMsgEnc.decodeSigMsg_encodeSigMsg content _ _ c.ski attrs (Sha.sha256N content) sig st _ _ hc.ski hp
    (IdEnc.idCertBody_enc c hc hci hcs csig) (SigMsgEnc.msgCrlBody_enc l hl hli lsig)).1 rest
  refine ⟨_, hd, ?_⟩
  rw [validateAt_iff]
  have hser : msgRevokedSerials ([] : Bytes) = some [] := by decide
  simp only [toMsg, IdEnc.readBack, eeValid_iff, crlValid_iff, hski, haki, hbc, hlaki, hrev, hthis, hnext, hser,
    Option.getD_some, List.not_mem_nil, not_false_eq_true, and_true, true_and, beq_self_eq_true, ne_eq,
    reduceCtorEq, Option.some.injEq, forall_eq']
  constructor
  · rintro ⟨_, _, ⟨hw, hk⟩, _, _, hk2⟩
    exact ⟨hk.symm, hw.1, hw.2⟩
  · rintro ⟨rfl, h1, h2⟩
    exact ⟨rfl, ⟨_, st, hp, rfl⟩, ⟨⟨h1, h2⟩, rfl⟩, h1, h2, rfl⟩

end Created

section Iff
open Rpki.SigMsgDer

/-- A decoded message validates exactly when the digest attribute read from the octets is the SHA-256 of the
content, the signature was made with the EE key over the DER SET OF all signed attributes, the signer identifier is
the EE certificate's subject key identifier, which is the SHA-1 of its key bits, the EE certificate is signed by the
peer key, current and not a CA, the CRL is signed by the peer key, consistent, current, and the walk over its list
does not meet the EE certificate's serial number — all read from the octets, the three signature verdicts and the
signature input being the only other inputs. -/
theorem message_octets_accepted_iff (b : Bytes) (m : SigMsgD) (hd : decodeSigMsg b = some m)
    (sigKeyOk eeSigOk crlSigOk : Bool) (sigInput peer : Bytes) (when : Int) :
    SigMsg.validateAt Sha.sha256N (toMsg m sigKeyOk sigInput eeSigOk crlSigOk) peer when = true ↔
    (Sha.sha256N m.content = m.messageDigest ∧ sigKeyOk = true ∧ sigInput = tlv 0x31 m.attrs ∧
     m.sid = m.cert.ski ∧ m.cert.ski = Sha.sha1N m.cert.keyBits ∧ eeSigOk = true ∧
     m.cert.validity.nb ≤ when ∧ when ≤ m.cert.validity.na ∧ (∀ a, m.cert.aki = some a → a = peer) ∧
     m.cert.basicCa ≠ some true ∧
     m.crl.innerParam = m.crl.outerParam ∧ crlSigOk = true ∧
     CertDer.civilToEpoch m.crl.thisUpdate ≤ when ∧ when ≤ CertDer.civilToEpoch m.crl.nextUpdate ∧
     (∀ a, m.crl.aki = some a → a = peer) ∧
     (∀ l, msgRevokedSerials m.crl.revoked = some l → m.cert.serial ∉ l)) := by
  constructor
  · exact accepted_message_octets b m hd sigKeyOk eeSigOk crlSigOk sigInput peer when
  · rintro ⟨h1, h2, h3, h4, h5, h6, h7, h8, h9, h10, h11, h12, h13, h14, h15, h16⟩
    obtain ⟨st, hp⟩ := decodeSigMsg_spec b m hd
    obtain ⟨l, hl⟩ := decodeSigMsg_serials b m hd
    rw [validateAt_iff]
    refine ⟨rfl, ⟨m.messageDigest, st, hp, h1⟩, h4, h2, h3, ?_, ?_, ?_⟩
    · rw [eeValid_iff]; exact ⟨h5, ⟨h7, h8⟩, h9, h10, h6⟩
    · rw [crlValid_iff]; exact ⟨by simp [toMsg, h11], h12, h13, h14, h15⟩
    · show m.cert.serial ∉ (msgRevokedSerials m.crl.revoked).getD []
      rw [hl]; exact h16 l hl

end Iff

end Rpki.Props.C10
