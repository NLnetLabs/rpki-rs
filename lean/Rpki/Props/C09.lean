/-
  C09 — RRDP files round-trip and hostile XML is rejected within fixed bounds.
-/
import Rpki.Proofs.RrdpLemmas
import Rpki.Proofs.RrdpDoc
namespace Rpki.Props.C09
set_option autoImplicit false
open Rpki.Rrdp Rpki.Xml
abbrev Bytes := List Nat

/-- After `reset_and_limit(limit)` with a non-zero limit, whatever the parser
does next (any sequence of `fill_buf`/`consume` respecting the `BufRead` contract, the source
offering at most `B` octets per `fill_buf`), at most `limit + B` octets are pulled from the source
before a read is refused: the element limit plus one buffer. -/
theorem budget (B limit : Nat) (hl : 0 < limit) (hsmall : limit < u64Max) (r0 : Run) (ops : List Op)
    (hB : r0.lastFill ≤ B) (hwf : WF B ops) (hops : ∀ op ∈ ops, ∀ l, op ≠ .reset l) :
    (run (step r0 (.reset limit)) ops).pulled ≤ limit + B :=
  Rrdp.budget B limit hl hsmall r0 ops hB hwf hops

/-- the bound is attained: it cannot be improved -/
theorem budget_tight (B limit : Nat) (hlB : limit ≤ B) (r0 : Run) :
    WF B [.fill limit, .consume limit, .fill B, .consume B] ∧
    (run (step r0 (.reset limit)) [.fill limit, .consume limit, .fill B, .consume B]).pulled = limit + B := by
  constructor
  · intro op hop
    simp only [List.mem_cons, List.not_mem_nil, or_false] at hop
    rcases hop with e | e | e | e <;> subst e <;> simp [hlB]
  · have hmin : min limit u64Max ≤ limit := Nat.min_le_left _ _
    simp [run, step, Counter.resetAndLimit, Counter.fillOk, Counter.consume, Nat.not_lt.mpr hmin]

/-- once the trip is over the limit the next read is refused -/
theorem refused_after (r : Run) (avail : Nat) (h1 : r.c.limit > 0) (h2 : r.c.trip > r.c.limit)
    (h3 : r.refused = false) : (step r (.fill avail)).refused = true := by
  have hf : r.c.fillOk = false := (fillOk_false_iff r.c).mpr ⟨h1, h2⟩
  simp [step, h3, hf]

/-- the limits the RRDP parsers configure are non-zero and far below 2^64, so `budget` applies -/
theorem limits_admissible :
    0 < Rpki.Consts.rrdpMaxHeaderSize ∧ Rpki.Consts.rrdpMaxHeaderSize < u64Max ∧
    0 < Rpki.Consts.rrdpMaxFileSize ∧ Rpki.Consts.rrdpMaxFileSize < u64Max := by decide

/-- `sort_and_verify_deltas` never panics and reports success exactly when the
retained deltas (the newest `limit` of the sorted list, all of them without a limit) have
consecutive serial numbers. -/
theorem sortAndVerify_iff (serials : List Nat) (lim : Option Nat) (h : ∀ s ∈ serials, s ≤ u64Max) :
    ∃ b, sortAndVerify serials lim = .ok b ∧ (b = true ↔ Consecutive (retained serials lim)) := by
  unfold sortAndVerify
  have hm : ∀ s ∈ retained serials lim, s ≤ u64Max := fun s hs => h s (mem_retained hs)
  revert hm
  generalize retained serials lim = r
  intro hm
  cases r with
  | nil => exact ⟨true, rfl, by simp [Consecutive]⟩
  | cons first rest => exact chainLoop_iff first rest hm

theorem retained_spec (l : List Nat) (lim : Option Nat) :
    (retained l lim).Pairwise (· ≤ ·) ∧ (∃ pre, sortSerials l = pre ++ retained l lim) ∧
    (retained l lim).length = (match lim with | some k => min k l.length | none => l.length) ∧
    (sortSerials l).Perm l :=
  ⟨retained_sorted l lim, retained_suffix l lim, retained_length l lim, sortSerials_perm l⟩

/-- The origin check succeeds exactly when the snapshot URI and every delta URI have
the authority of the notification URI (compared ignoring ASCII case). -/
theorem hasMatchingOrigins_iff (base snapshot : Uri.Https) (deltas : List Uri.Https) :
    hasMatchingOrigins base snapshot deltas = true ↔
      eqAuthority base snapshot = true ∧ ∀ d ∈ deltas, eqAuthority base d = true := by
  simp [hasMatchingOrigins]

/-- Whatever octets a URI, hash, serial or session id contains, the written
attribute value contains no raw quote or `<`, every `&` starts a predefined entity, and
un-escaping gives back exactly the original. -/
theorem attr_roundtrip (b : Bytes) :
    unescapeAll (escapeAttr b) = some b ∧ 34 ∉ escapeAttr b ∧ 60 ∉ escapeAttr b :=
  ⟨unescape_escapeAttr b, (escapeAttr_safe b).1, (escapeAttr_safe b).2⟩

theorem pcdata_roundtrip (b : Bytes) : unescapeAll (escapePcdata b) = some b ∧ 60 ∉ escapePcdata b :=
  ⟨unescape_escapePcdata b, escapePcdata_safe b⟩

/-- Base64 text written for an object decodes to exactly the object, with any
amount of white space (the writer's line break and indentation) around or inside it; and nothing
else decodes to it. -/
theorem object_roundtrip (d t : Bytes) (hd : ∀ x ∈ d, x < 256) (h : skipWs t = b64Encode d) :
    xmlB64Decode t = some d := xmlB64Decode_of_skipWs t d hd h

theorem object_decode_iff (t d : Bytes) :
    xmlB64Decode t = some d ↔ skipWs t = b64Encode d ∧ ∀ x ∈ d, x < 256 :=
  ⟨fun h => ⟨(b64Encode_b64Decode _ d h).1.symm, (b64Encode_b64Decode _ d h).2⟩,
    fun h => xmlB64Decode_of_skipWs t d h.2 h.1⟩

theorem b64_text_is_clean (d : Bytes) (hd : ∀ x ∈ d, x < 256) :
    skipWs (b64Encode d) = b64Encode d ∧ ∀ x ∈ b64Encode d, 43 ≤ x ∧ x ≤ 122 :=
  ⟨b64Encode_no_ws d, mem_b64Encode_range d⟩

/-- What `NotificationFile::write_xml` emits is read back by the reference
reader as exactly the tree of its fields (session, serial, snapshot and delta references in order),
for all field values; and distinct values are written differently. -/
theorem notification_read_back (n : Notification) :
    XmlDoc.parseDoc (writeNotification n) = some (notificationTree n) := Rrdp.notification_read_back n

theorem notification_writer_injective (a b : Notification) (h : writeNotification a = writeNotification b) :
    a = b := Rrdp.writeNotification_injective a b h

/-- The same for `Snapshot::write_xml` / `Delta::write_xml` with any
list of publish / update / withdraw elements (objects of any length, including zero), element order
preserved. -/
theorem file_read_back (root session : Bytes) (serial : Nat) (elems : List Elem) (hroot : XmlDoc.NameOk root) :
    XmlDoc.parseDoc (writeFile root session serial elems) = some (fileTree root session serial elems) :=
  Rrdp.file_read_back_all root session serial elems hroot

theorem file_writer_injective (root root' session session' : Bytes) (serial serial' : Nat) (elems elems' : List Elem)
    (hroot : XmlDoc.NameOk root) (hroot' : XmlDoc.NameOk root') (ho : ∀ e ∈ elems, e.Octets) (ho' : ∀ e ∈ elems', e.Octets)
    (h : writeFile root session serial elems = writeFile root' session' serial' elems') :
    root = root' ∧ session = session' ∧ serial = serial' ∧ elems = elems' :=
  Rrdp.writeFile_injective root root' session session' serial serial' elems elems' hroot hroot' ho ho' h

/-- the fields come back from the tree: URIs un-escape, object text decodes -/
theorem publish_fields (uri d : Bytes) (hne : d ≠ []) (hd : ∀ x ∈ d, x < 256) :
    elemTree (.publish uri d) = .elem sPublish [(sUri, escapeAttr uri)] (some (.cons (.text (b64Encode d)) .nil)) ∧
      unescapeAll (escapeAttr uri) = some uri ∧ xmlB64Decode (b64Encode d) = some d :=
  Rrdp.elemTree_publish_fields uri d hne hd

example : sortAndVerify [5, 3, 4] none = .ok true ∧ sortAndVerify [5, 3, 4, 9] (some 3) = .ok false ∧
    sortAndVerify [18446744073709551615, 18446744073709551615] none = .ok false ∧
    sortAndVerify [4, 5] (some 0) = .ok true := by decide
example : escapeAttr [60, 34, 38] = [38,108,116,59, 38,113,117,111,116,59, 38,97,109,112,59] := by decide
example : b64Encode [77, 97] = [84, 87, 69, 61] ∧ b64Decode [84, 87, 69, 61] = some [77, 97] := by decide

end Rpki.Props.C09
