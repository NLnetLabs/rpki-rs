/-
  C14 — manifest entries cannot name anything outside the publication point.
  What a decoded manifest guarantees; the facts about file names, joining and the two loops are in
  `Rpki/Proofs/ManifestLemmas.lean`.
-/
import Rpki.Proofs.ManifestLemmas
import Rpki.Proofs.CmsTyped
import Rpki.Gen.BerEq
namespace Rpki.Props.C14
open Rpki.Der Rpki.Manifest

/-- what a successful decode guarantees about the stored content -/
theorem fields_facts (c : Bytes) (m : Content) (h : decodeFields c = some m) :
    civilKey m.thisUpdate ≤ civilKey m.nextUpdate ∧
    countLoop m.fileList.length m.fileList 0 = some m.len := decodeFields_facts c m h

theorem decode_facts (b : Bytes) (m : Content) (h : decodeContent b = some m) :
    civilKey m.thisUpdate ≤ civilKey m.nextUpdate ∧
    countLoop m.fileList.length m.fileList 0 = some m.len := decodeContent_facts b m h

/-- `validate_file_name` accepts exactly the names made of letters, digits, `-`, `_`,
one dot and a three-letter extension. -/
theorem validName_iff (n : Bytes) :
    validName n = true ↔ ∃ stem ext, n = stem ++ 46 :: ext ∧ stem.all validChar = true ∧
      ext.length = 3 ∧ ext.all isAlpha = true := validName_iff' n

/-- A legal name is a single path segment: no slash, and neither `.` nor `..`. -/
theorem validName_segment (n : Bytes) (h : validName n = true) :
    47 ∉ n ∧ n ≠ [46] ∧ n ≠ [46, 46] ∧ n ≠ [] := by
  have hl := validName_length h
  refine ⟨validName_noslash h, ?_, ?_, ?_⟩ <;> (intro e; rw [e] at hl; simp at hl)

/-- For every decoded manifest the iterator yields exactly `len()`
entries, never hits its `unwrap()`, and every entry carries a legal name. -/
theorem len_eq_iter (b : Bytes) (m : Content) (h : decodeContent b = some m) :
    ∃ es, m.iter = some es ∧ es.length = m.len ∧ ∀ e ∈ es, validName e.name = true :=
  count_iter _ _ _ _ (decode_facts b m h).2

/-- A decoded manifest never has thisUpdate after nextUpdate. -/
theorem times_ordered (b : Bytes) (m : Content) (h : decodeContent b = some m) :
    civilKey m.thisUpdate ≤ civilKey m.nextUpdate := (decode_facts b m h).1

/-- Resolving the list of a decoded manifest against any rsync base URI never
fails (the `unwrap()` in `iter_uris` is safe) and every result is the base directory followed by
the bare name — i.e. a URI directly inside that directory. -/
theorem iterUris_inside (b : Bytes) (m : Content) (base : Uri.Rsync) (h : decodeContent b = some m) :
    ∃ es us, m.iter = some es ∧ iterUris m base = some us ∧ us.length = m.len ∧
      us = es.map (fun e => ({ base with bytes := dirOf base.bytes ++ e.name }, e.hash)) ∧
      ∀ e ∈ es, 47 ∉ e.name := by
  obtain ⟨es, h1, h2, h3⟩ := len_eq_iter b m h
  exact ⟨es, _, h1, iterUris_eq m base es h1 h3, (List.length_map _).trans h2, rfl,
    fun e he => validName_noslash (h3 e he)⟩

/-- The URI produced for an entry re-parses as a valid rsync URI with the same module. -/
theorem resolved_is_valid (base v : Uri.Rsync) (n : Bytes) (hb : base.Inv) (hn : validName n = true)
    (hj : base.join n = .ok v) :
    Uri.Rsync.fromBytes v.bytes = .ok v ∧ v.pathStart = base.pathStart :=
  ⟨Uri.Rsync.fromBytes_of_inv v (Uri.Rsync.join_inv base n v hb hj), (Uri.Rsync.join_offsets hj).2⟩

/-- A listed hash verifies against data exactly when it equals the digest of the data. -/
theorem hashVerify_iff (digest : Bytes → Bytes) (hash data : Bytes) :
    hashVerify digest hash data = true ↔ hash = digest data := by
  unfold hashVerify; simp

/-! ### the same for a whole manifest object on octets

`CmsDer.decodeTyped "mft"` is `Manifest::decode` in strict mode (tied by the `cmsd` operations): the CMS
envelope, the embedded certificate, the signed attributes and the content.  Every manifest object it
accepts — whatever the octets — has the properties above. -/

theorem manifest_object_octets (b : Bytes) (o : CmsDer.SigObjD) (base : Uri.Rsync)
    (h : CmsDer.decodeTyped "mft" b = some o) :
    ∃ m es us, decodeContent o.content = some m ∧
      m.iter = some es ∧ es.length = m.len ∧ (∀ e ∈ es, validName e.name = true) ∧
      civilKey m.thisUpdate ≤ civilKey m.nextUpdate ∧
      iterUris m base = some us ∧ us.length = m.len ∧ (∀ e ∈ es, 47 ∉ e.name) :=
  content_facts _ base ((CmsDer.decodeTypedM_content false _ b o (CmsDer.decodeTypedM_false ▸ h)).2.2 rfl)

/-- the same for a manifest decoded in either mode (`Manifest::decode(.., strict)` with `strict` true or false): the
content is decoded in DER mode whatever the envelope's mode, so every conclusion carries over -/
theorem manifest_object_octets_either_mode (ber : Bool) (b : Bytes) (o : CmsDer.SigObjD) (base : Uri.Rsync)
    (h : CmsDer.decodeTypedM ber "mft" b = some o) :
    ∃ m es us, decodeContent o.content = some m ∧
      m.iter = some es ∧ es.length = m.len ∧ (∀ e ∈ es, validName e.name = true) ∧
      civilKey m.thisUpdate ≤ civilKey m.nextUpdate ∧
      iterUris m base = some us ∧ us.length = m.len ∧ (∀ e ∈ es, 47 ∉ e.name) :=
  content_facts _ base ((CmsDer.decodeTypedM_content ber _ b o h).2.2 rfl)

/-! ### non-vacuity -/

/-- "a-1.roa" -/
example : validName [97, 45, 49, 46, 114, 111, 97] = true := by decide
/-- "../x.cer", "a/b.cer", ".." are rejected -/
example : validName [46, 46, 47, 120, 46, 99, 101, 114] = false ∧
    validName [97, 47, 98, 46, 99, 101, 114] = false ∧ validName [46, 46] = false := by decide

end Rpki.Props.C14
