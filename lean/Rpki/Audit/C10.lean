import Rpki.Props.C10
#print axioms Rpki.Props.C10.msg_sigVerifies_iff
#print axioms Rpki.Props.C10.windowOk_iff
#print axioms Rpki.Props.C10.akiOk_iff
#print axioms Rpki.Props.C10.eeValid_iff
#print axioms Rpki.Props.C10.crlValid_iff
#print axioms Rpki.Props.C10.validateAt_iff
#print axioms Rpki.Props.C10.single_fault_rejects
#print axioms Rpki.Props.C10.created_validates_iff
#print axioms Rpki.Props.C10.accepted_message_octets_either_mode
#print axioms Rpki.Props.C10.accepted_message_octets
#print axioms Rpki.Props.C10.created_message_octets
#print axioms Rpki.Props.C10.message_octets_accepted_iff
