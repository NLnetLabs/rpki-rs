import Rpki.Props.C03
#print axioms Rpki.C03.containsItem_iff
#print axioms Rpki.C03.canon_unique
#print axioms Rpki.C03.eq_iff_same_set
#print axioms Rpki.C03.fromIter_canon_den
#print axioms Rpki.C03.fromIter_canon_id
#print axioms Rpki.C03.isEncompassed_iff
#print axioms Rpki.C03.trim_spec
#print axioms Rpki.C03.difference_spec
#print axioms Rpki.C03.union_spec
#print axioms Rpki.C03.inter_spec
#print axioms Rpki.C03.verifyIssued_subset
#print axioms Rpki.C03.containsBlock_iff
#print axioms Rpki.C03.intersectsBlock_iff
#print axioms Rpki.C03.asnCount_spec
#print axioms Rpki.C03.intoPrefix_sound
#print axioms Rpki.C03.intoPrefix_complete
#print axioms Rpki.C03.toPrefixes_tiles
#print axioms Rpki.C03.asExt_decode_canonical
#print axioms Rpki.C03.asBlocks_decode_den
#print axioms Rpki.C03.asExt_roundtrip
#print axioms Rpki.C03.ipPrefix_roundtrip
#print axioms Rpki.C03.ipBlock_roundtrip
#print axioms Rpki.C03.ipBlocks_roundtrip
#print axioms Rpki.C03.ipBlocks_decode_canonical
#print axioms Rpki.C03.ipBlocks_decode_den
#print axioms Rpki.C03.ipBlock_v4_shape
#print axioms Rpki.C03.as_text_roundtrip
#print axioms Rpki.C03.decimal_roundtrip
#print axioms Rpki.C03.address_text_roundtrip
#print axioms Rpki.C03.ipv4_text_roundtrip
#print axioms Rpki.C03.ip_text_set_roundtrip
#print axioms Rpki.C03.limit_pick_spec
#print axioms Rpki.C03.limit_apply_spec
#print axioms Rpki.C03.canon_no_members
#print axioms Rpki.C03.resset_union_spec
#print axioms Rpki.C03.resset_inter_spec
#print axioms Rpki.C03.resset_diff_spec
#print axioms Rpki.C03.resset_diff_empty_iff_eq
#print axioms Rpki.C03.resset_contains_iff
#print axioms Rpki.C03.resset_containsAsn_iff
#print axioms Rpki.C03.resset_containsRoa_iff
#print axioms Rpki.C03.resset_text_roundtrip
