import Rpki.Props.C02
#print axioms Rpki.Props.C02.encodeVerify_is_der
#print axioms Rpki.Props.C02.parseAttrs_len
#print axioms Rpki.Props.C02.sigVerifies_iff
#print axioms Rpki.Props.C02.validateAt_iff
#print axioms Rpki.Props.C02.single_fault_rejects
#print axioms Rpki.Props.C02.roaVerify_iff
#print axioms Rpki.Props.C02.aspaVerify_iff
#print axioms Rpki.Props.C02.roaProcess_iff
#print axioms Rpki.Props.C02.roa_within_issuer
#print axioms Rpki.Props.C02.attrs_any_order
#print axioms Rpki.Props.C02.attrs_missing_rejected
#print axioms Rpki.Props.C02.attrs_duplicate_rejected
#print axioms Rpki.Props.C02.attrs_too_long_rejected
#print axioms Rpki.Props.C02.roaVerify_covers
#print axioms Rpki.Props.C02.roa_octets_within_trust_anchor
#print axioms Rpki.Props.C02.aspa_octets_within_trust_anchor
#print axioms Rpki.Props.C02.parseAttrs_any_mode
#print axioms Rpki.Props.C02.claimsCanon_of_octets_either_mode
#print axioms Rpki.Props.C02.accepted_object_octets_either_mode
#print axioms Rpki.Props.C02.object_octets_accepted_iff
#print axioms Rpki.Props.C02.accepted_object_octets
#print axioms Rpki.Props.C02.tampered_object_octets
