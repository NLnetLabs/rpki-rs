import Rpki.Props.C06
#print axioms Rpki.C06.diff_exact
#print axioms Rpki.C06.reset_exact
#print axioms Rpki.C06.clientReset_spec
#print axioms Rpki.C06.step_sync
#print axioms Rpki.C06.downgrade
#print axioms Rpki.C06.lookup_update
#print axioms Rpki.C06.inv_update
#print axioms Rpki.C06.inv_step
#print axioms Rpki.C06.inv_run
#print axioms Rpki.C06.history_sync_partial
