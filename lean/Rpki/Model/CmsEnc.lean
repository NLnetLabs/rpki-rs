/-
  `SignedObject::encode_ref` (`src/repository/sigobj.rs`): the CMS ContentInfo / SignedData / SignerInfo
  written around an encoded certificate.  `Props/C05.lean` (`sigobj_roundtrip`, over `Proofs/CmsEncLemmas.lean`)
  shows that `CmsDer.decodeSigObj` reads it back.
-/
import Rpki.Model.CmsDer
import Rpki.Model.CertEnc
namespace Rpki.CmsEnc
open Rpki.Der Rpki.CertDer Rpki.CmsDer Rpki.Consts

/-- `DigestAlgorithm::encode`: SEQUENCE { sha256 } (no parameter) -/
def digestAlgEnc : Bytes := tlv tagSeq (tlv tagOid oidSha256)

/-- `RpkiSignatureAlgorithm::cms_encode`: SEQUENCE { rsaEncryption, NULL } -/
def cmsSigAlgEnc : Bytes := tlv tagSeq (tlv tagOid oidRsaEncryption ++ tlv tagNull [])

def signerInfoEnc (sid attrs signature : Bytes) : Bytes :=
  tlv tagSeq (tlv tagInt [3] ++ tlv 0x80 sid ++ digestAlgEnc ++ tlv 0xA0 attrs ++ cmsSigAlgEnc ++
    tlv tagOctetString signature)

/-- `SignedObject::encode_ref`, around the octets of the certificate -/
def encodeSigObj (contentType content certBytes sid attrs signature : Bytes) : Bytes :=
  tlv tagSeq (tlv tagOid oidSignedData ++ tlv 0xA0 (tlv tagSeq (
    tlv tagInt [3] ++
    tlv tagSet digestAlgEnc ++
    tlv tagSeq (tlv tagOid contentType ++ tlv 0xA0 (tlv tagOctetString content)) ++
    tlv 0xA0 certBytes ++
    tlv tagSet (signerInfoEnc sid attrs signature))))

/-- the octets of a certificate as decoded (canonical certificates: the unused-bits octet of the signature
is zero, which `SignedData::encode_ref` always writes) -/
def certRaw (d : Decoded) : Bytes :=
  tlv tagSeq (d.tbs ++ tlv tagSeq (tlv tagOid oidSha256WithRsa ++ (if d.outerParam then tlv tagNull [] else [])) ++
    tlv tagBitString (0 :: d.signature))

end Rpki.CmsEnc
