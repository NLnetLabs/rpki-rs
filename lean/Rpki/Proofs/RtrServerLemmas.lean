/-
The RTR server's parser (`parseOne` in `Rpki/Model/RtrServer.lean`) looks only at the bytes of the query it
answers: its verdict on a buffer stands when more bytes arrive (`Stable`), it consumes at least a header,
and so the serving loop does not depend on its fuel once that exceeds the buffer's length. `parseOne_encHdr`
is the parser on a written header, for C08.
-/
import Rpki.Model.RtrServer
import Rpki.Proofs.RtrPduCodec
namespace Rpki.RtrServer
open Rpki.Consts Rpki.Rtr

theorem answerSerial_not_notify (src : Src) (a b c : Nat) : (answerSerial src a b c).isNotify = false := by
  fun_cases answerSerial src a b c <;> rfl

theorem answerReset_not_notify (src : Src) (a : Nat) : (answerReset src a).isNotify = false := by
  fun_cases answerReset src a <;> rfl

/-- `r` is the parse of `slen` bytes and `r'` the parse of the same bytes followed by more: a
complete query is answered (not with a Serial Notify) from bytes that were there, and stays what
it was; so does an Error PDU. -/
def Stable (r r' : Parse) (slen : Nat) : Prop :=
  (∀ used out w, r = .one used out w →
    out.isNotify = false ∧ 8 ≤ used ∧ used ≤ slen ∧ r' = .one used out w) ∧
  (r = .dead → r' = .dead)

theorem stable_one {used : Nat} {out : Out} (w : Option Nat) {slen : Nat} (hn : out.isNotify = false)
    (h1 : 8 ≤ used) (h2 : used ≤ slen) : Stable (.one used out w) (.one used out w) slen :=
  ⟨fun _ _ _ e => by cases e; exact ⟨hn, h1, h2, rfl⟩, fun e => Parse.noConfusion e⟩

theorem stable_more (r' : Parse) (slen : Nat) : Stable .more r' slen :=
  ⟨fun _ _ _ e => Parse.noConfusion e, fun e => Parse.noConfusion e⟩

theorem stable_dead (slen : Nat) : Stable .dead .dead slen :=
  ⟨fun _ _ _ e => Parse.noConfusion e, fun _ => rfl⟩

theorem stable_ite {c : Prop} [Decidable c] {a a' b b' : Parse} {slen : Nat} (h1 : Stable a a' slen)
    (h2 : Stable b b' slen) : Stable (if c then a else b) (if c then a' else b') slen := by
  split <;> assumption

theorem parseOne_body_stable (src : Src) (s t : Bytes) (h : Hdr) (ver' : Option Nat) (v : Nat)
    (h8 : 8 ≤ s.length) :
    Stable (parseOne.body src s h ver' v) (parseOne.body src (s ++ t) h ver' v) s.length := by
  unfold parseOne.body
  rw [List.take_append_of_le_length h8]
  have herr : ∀ w, Stable (.one 8 (.error h.version 3 (s.take 8)) w) (.one 8 (.error h.version 3 (s.take 8)) w)
      s.length := fun w => stable_one w rfl (Nat.le_refl _) h8
  refine stable_ite (stable_ite (herr _) ?_) (stable_ite
    (stable_ite (herr _) (stable_one _ (answerReset_not_notify ..) (Nat.le_refl _) h8))
    (stable_ite (stable_dead _) (herr _)))
  by_cases h12 : s.length < 12
  · rw [if_pos h12]; exact stable_more _ _
  · have h12 := Nat.not_lt.1 h12
    rw [if_neg (Nat.not_lt.2 h12),
      if_neg (Nat.not_lt.2 (Nat.le_trans h12 (List.length_append ▸ Nat.le_add_right _ _))),
      List.drop_append_of_le_length (Nat.le_trans (by decide) h12),
      List.take_append_of_le_length (by rw [List.length_drop]; exact Nat.le_sub_of_add_le' h12)]
    exact stable_one _ (answerSerial_not_notify ..) (by decide) h12

theorem parseOne_stable (src : Src) (ver : Option Nat) (s t : Bytes) :
    Stable (parseOne src ver s) (parseOne src ver (s ++ t)) s.length := by
  unfold parseOne
  by_cases h8 : s.length < 8
  · rw [if_pos h8]; exact stable_more _ _
  · have h8 := Nat.not_lt.1 h8
    rw [if_neg (Nat.not_lt.2 h8),
      if_neg (Nat.not_lt.2 (Nat.le_trans h8 (List.length_append ▸ Nat.le_add_right _ _)))]
    simp only [List.take_append_of_le_length h8]
    cases ver <;>
      exact stable_ite (stable_one _ rfl (Nat.le_refl _) h8) (parseOne_body_stable src s t _ _ _ h8)

theorem parseOne_encHdr (src : Src) (ver : Option Nat) (h : Hdr) (hw : h.WF) (rest : Bytes) :
    parseOne src ver (encHdr h ++ rest) =
      match ver with
      | some cur =>
        if cur ≠ h.version then .one 8 (.error cur 8 (encHdr h)) ver
        else parseOne.body src (encHdr h ++ rest) h (some cur) cur
      | none =>
        if h.version > rtrMaxVersion then .one 8 (.error rtrMaxVersion 4 (encHdr h)) none
        else parseOne.body src (encHdr h ++ rest) h (some h.version) h.version := by
  rw [parseOne, if_neg (by rw [List.length_append, encHdr_length]; exact Nat.not_lt.2 (Nat.le_add_right 8 _)),
    take_encHdr, decHdr_encHdr h hw]
  rfl

theorem length_drop_lt {s : Bytes} {used : Nat} (h1 : 8 ≤ used) (h2 : used ≤ s.length) :
    (s.drop used).length < s.length := by
  rw [List.length_drop]
  exact Nat.sub_lt (Nat.lt_of_lt_of_le (by decide) (Nat.le_trans h1 h2)) (Nat.lt_of_lt_of_le (by decide) h1)

theorem serveAux_fuel (src : Src) : ∀ (f g : Nat) (ver : Option Nat) (s : Bytes),
    s.length < f → s.length < g → serveAux src f ver s = serveAux src g ver s := by
  intro f
  induction f with
  | zero => intro g ver s h; cases h
  | succ f ih =>
    intro g ver s hf hg
    cases g with
    | zero => cases hg
    | succ g =>
      rw [serveAux, serveAux]
      cases hp : parseOne src ver s with
      | more => rfl
      | dead => rfl
      | one used out w =>
        simp only
        have ⟨_, h1, h2, _⟩ := (parseOne_stable src ver s []).1 used out w hp
        have hlt := length_drop_lt h1 h2
        rw [ih g w (s.drop used) (Nat.lt_of_lt_of_le hlt (Nat.le_of_lt_succ hf))
          (Nat.lt_of_lt_of_le hlt (Nat.le_of_lt_succ hg))]

end Rpki.RtrServer
