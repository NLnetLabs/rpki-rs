/-
  From the text of a SLURM file back to the file: the strings under `prefix`, `SKI` and
  `routerPublicKey` are read back as the prefix / the octets they were written for, so the tree the
  reference reader returns, with its leaves typed, is the tree the file serialises to.
-/
import Rpki.Proofs.JsonTextLemmas
import Rpki.Proofs.SlurmLemmas
import Rpki.Proofs.PfxTextLemmas
import Rpki.Proofs.ProvMsgLemmas
namespace Rpki.JsonText
open Rpki.Slurm Rpki.Prefix

def OctetsOk (b : List Nat) : Prop := ∀ x ∈ b, x < 256

/-- what the text layer needs of a file beyond `SlurmFile.WF`: prefixes as the constructors make them,
octet strings made of octets -/
def PrefixFilter.TextWF (f : PrefixFilter) : Prop := ∀ p, f.pfx = some p → PfxText.PfxWF p
def BgpsecFilter.TextWF (f : BgpsecFilter) : Prop := ∀ s, f.ski = some s → OctetsOk s ∧ s.length = 20
def PrefixAssertion.TextWF (a : PrefixAssertion) : Prop := PfxText.PfxWF a.mlp.pfx
def BgpsecAssertion.TextWF (a : BgpsecAssertion) : Prop := (OctetsOk a.ski ∧ a.ski.length = 20) ∧ OctetsOk a.key
def FileTextWF (f : SlurmFile) : Prop :=
  (∀ x ∈ f.filters.pfs, PrefixFilter.TextWF x) ∧ (∀ x ∈ f.filters.bgpsec, BgpsecFilter.TextWF x) ∧
  (∀ x ∈ f.assertions.pas, PrefixAssertion.TextWF x) ∧ (∀ x ∈ f.assertions.bgpsec, BgpsecAssertion.TextWF x)

/-- `j` is what `retype` at `ctx` makes of its own text: every `pfx` / `bytes` leaf sits where the field
deserialisers look for one and reads back from the string it is written as.  An object is fixed when every
member is fixed under its key, so each `toJson` is fixed because its fields are. -/
def Fix (ctx : Ctx) (j : Json) : Prop := retype ctx (erase j) = j

theorem Fix.pfx {p : Pfx} (h : PfxText.PfxWF p) : Fix (.key .prefixK) (.pfx p) := by
  simp [Fix, erase, retype, PfxText.parsePfx_fmt false p h]

theorem slurmB64_b64Url (b : List Nat) (h : OctetsOk b) : slurmB64 (ProvMsg.b64Url b) = some b := by
  unfold slurmB64
  rw [ProvMsg.b64Url_urlsafe b]
  simp only [Bool.false_eq_true, if_false]
  -- same predicate as `PubMsg.BytesOk`; `h` passes by unfolding
  exact ProvMsg.unB64Url_b64Url b h

theorem b64Url_len20 (b : List Nat) (h : b.length = 20) : (ProvMsg.b64Url b).length = 27 := by
  rw [ProvMsg.b64Url_length, h]

theorem retype_ski (s : List Nat) (h : OctetsOk s ∧ s.length = 20) :
    retype (.key .ski) (.str (ProvMsg.b64Url s)) = .bytes s := by
  simp [retype, b64Url_len20 s h.2, slurmB64_b64Url s h.1]

theorem retypeArr_map {α : Type} (g : α → Json) (k : Ctx) : ∀ (l : List α),
    (∀ x ∈ l, retype k (erase (g x)) = g x) → retypeArr k (eraseArr (l.map g)) = l.map g := by
  intro l
  induction l with
  | nil => intro _; simp [eraseArr, retypeArr]
  | cons x r ih =>
    intro h
    simp only [List.map_cons, eraseArr, retypeArr, h x (by simp), ih (fun y hy => h y (by simp [hy]))]

theorem Fix.ski {s : List Nat} (h : OctetsOk s ∧ s.length = 20) : Fix (.key .ski) (.bytes s) := retype_ski s h

theorem Fix.routerKey {s : List Nat} (h : OctetsOk s) : Fix (.key .routerPublicKey) (.bytes s) := by
  simp [Fix, erase, retype, slurmB64_b64Url s h]

variable {ctx : Ctx} {k : Key} {α : Type} {g : α → Json}

theorem Fix.num (ctx : Ctx) (n : Nat) : Fix ctx (.num n) := rfl

theorem Fix.comment (s : Bytes) : Fix (.key .comment) (.str s) := rfl

theorem fix_obj {l : Obj} : Fix ctx (.obj l) ↔ retypeObj (eraseObj l) = l := by
  unfold Fix; rw [erase, retype, Json.obj.injEq]

theorem Fix.nil (ctx : Ctx) : Fix ctx (.obj []) := rfl

theorem Fix.cons {v : Json} {l : Obj} (hv : Fix (.key k) v) (hl : Fix ctx (.obj l)) :
    Fix ctx (.obj ((k, v) :: l)) := by
  rw [fix_obj] at hl ⊢
  rw [eraseObj, retypeObj, hv, hl]

theorem Fix.append {a b : Obj} (ha : Fix ctx (.obj a)) (hb : Fix ctx (.obj b)) :
    Fix ctx (.obj (a ++ b)) := by
  induction a with
  | nil => exact hb
  | cons e a ih =>
    rw [fix_obj, eraseObj, retypeObj, List.cons.injEq, Prod.mk.injEq, ← fix_obj (ctx := ctx)] at ha
    exact .cons ha.1.2 (ih ha.2)

theorem Fix.optField {o : Option α}
    (h : ∀ x, o = some x → Fix (.key k) (g x)) : Fix ctx (.obj (optField k (o.map g))) := by
  cases o with
  | none => rfl
  | some x => exact .cons (h x rfl) (.nil ctx)

/-- a member whose array is a list of elements, not the sequence form of a struct -/
abbrev ListKey (k : Key) : Prop := k ≠ .validationOutputFilters ∧ k ≠ .locallyAddedAssertions

theorem Fix.arr {l : List α}
    (h : ∀ x ∈ l, Fix (.elem k) (g x)) (hk : ListKey k) : Fix (.key k) (.arr (l.map g)) := by
  unfold Fix; rw [erase, retype, retypeArr_map g (.elem k) l h]
  -- the equation's side conditions: the earlier patterns of `retype` (the two struct keys) do not match
  · exact fun _ _ _ _ e => hk.1 e
  · exact fun _ _ _ _ e => hk.2 e

theorem Fix.optArr {o : Option (List α)}
    (h : ∀ l, o = some l → ∀ x ∈ l, Fix (.elem k) (g x)) (hk : ListKey k) : Fix (.key k) (optArr g o) := by
  cases o with
  | none => rfl
  | some l => exact .arr (h l rfl) hk

theorem PrefixFilter.fix (f : PrefixFilter) (h : PrefixFilter.TextWF f) (k : Ctx) : Fix k f.toJson :=
  .append (.append (.optField fun p e => .pfx (h p e)) (.optField fun _ _ => .num _ _))
    (.optField fun _ _ => .comment _)

theorem BgpsecFilter.fix (f : BgpsecFilter) (h : BgpsecFilter.TextWF f) (k : Ctx) : Fix k f.toJson :=
  .append (.append (.optField fun s e => .ski (h s e)) (.optField fun _ _ => .num _ _))
    (.optField fun _ _ => .comment _)

theorem AspaFilter.fix (f : AspaFilter) (k : Ctx) : Fix k f.toJson :=
  .append (.optField fun _ _ => .num _ _) (.optField fun _ _ => .comment _)

theorem PrefixAssertion.fix (a : PrefixAssertion) (h : PrefixAssertion.TextWF a) (k : Ctx) : Fix k a.toJson :=
  .append (.append (.cons (.pfx h) (.cons (.num _ _) (.nil k))) (.optField fun _ _ => .num _ _))
    (.optField fun _ _ => .comment _)

theorem BgpsecAssertion.fix (a : BgpsecAssertion) (h : BgpsecAssertion.TextWF a) (k : Ctx) : Fix k a.toJson :=
  .append (.cons (.num _ _) (.cons (.ski h.1) (.cons (.routerKey h.2) (.nil k)))) (.optField fun _ _ => .comment _)

theorem AspaAssertion.fix (a : AspaAssertion) (k : Ctx) : Fix k a.toJson :=
  .append (.cons (.num _ _) (.cons (.arr (fun _ _ => .num _ _) (by decide)) (.nil k)))
    (.optField fun _ _ => .comment _)

theorem file_retype_erase (f : SlurmFile) (h : FileTextWF f) :
    retype .top (erase f.toJson) = f.toJson :=
  Fix.cons (.num _ _) (.cons
    (.cons (.arr (fun x hx => PrefixFilter.fix x (h.1 x hx) _) (by decide))
      (.cons (.arr (fun x hx => BgpsecFilter.fix x (h.2.1 x hx) _) (by decide))
      (.cons (.optArr (fun _ _ x _ => AspaFilter.fix x _) (by decide)) (.nil _))))
    (.cons (.cons (.arr (fun x hx => PrefixAssertion.fix x (h.2.2.1 x hx) _) (by decide))
      (.cons (.arr (fun x hx => BgpsecAssertion.fix x (h.2.2.2 x hx) _) (by decide))
      (.cons (.optArr (fun _ _ x _ => AspaAssertion.fix x _) (by decide)) (.nil _)))) (.nil _)))

theorem fromJson_retype_erase (f : SlurmFile) (hw : f.WF) (ht : FileTextWF f) :
    SlurmFile.fromJson (retype .top (erase f.toJson)) = some f := by
  rw [file_retype_erase f ht]
  exact SlurmFile.roundtrip f hw

/-- **From text to file.** The text `SlurmFile::to_string` writes is read back — reference reader,
typed leaves, field deserialisers — as the file it was written for. -/
theorem readFile_fileText (f : SlurmFile) (hw : f.WF) (ht : FileTextWF f) :
    readFile (fileText f) = some f := by
  rw [readFile, fileText, parse_render, Option.bind_some]
  exact fromJson_retype_erase f hw ht

end Rpki.JsonText
