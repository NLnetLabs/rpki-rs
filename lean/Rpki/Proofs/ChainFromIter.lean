import Rpki.Proofs.ChainLemmas
import Rpki.Proofs.ListLemmas
/-! `OwnedChain::from_iter` turns any finite sequence of well-formed blocks into the canonical chain of their
union. The fast path keeps its accumulator canonical while the input arrives sorted; of the three stages of
`from_iter_unsorted` (merging fold, sort by lower bound, joining pass) only the last has to establish the canonical form. -/
namespace Rpki.Chain
open Rpki.Consts

/-- the repaired post pass merges overlapping neighbours too (read from the source) -/
theorem postPassFlag : chainPostPassMergesOverlap = true := rfl

def WF (M : Nat) (l : List Blk) : Prop := ∀ b ∈ l, b.lo ≤ b.hi ∧ b.hi ≤ M

theorem wf_nil (M : Nat) : WF M [] := by intro b hb; cases hb

theorem wf_cons {M : Nat} {b : Blk} {l : List Blk} :
    WF M (b :: l) ↔ (b.lo ≤ b.hi ∧ b.hi ≤ M) ∧ WF M l := by
  unfold WF; simp only [List.mem_cons, forall_eq_or_imp]

theorem next_eq_some {M x y : Nat} : next M x = some y ↔ x < M ∧ y = x + 1 := by
  unfold next
  split
  · rename_i h
    exact ⟨fun e => ⟨h, (Option.some.inj e).symm⟩, fun e => congrArg some e.2.symm⟩
  · rename_i h
    exact ⟨nofun, fun e => absurd e.1 h⟩

theorem extend_iff {t b : Blk} (h1 : t.lo ≤ b.lo) (h2 : b.lo ≤ t.hi + 1) (h3 : t.hi ≤ b.hi) (x : Nat) :
    t.lo ≤ x ∧ x ≤ b.hi ↔ (t.lo ≤ x ∧ x ≤ t.hi) ∨ (b.lo ≤ x ∧ x ≤ b.hi) := by
  omega

theorem sum_spec {M : Nat} {a b s : Blk} (hs : sum M a b = some s)
    (ha : a.lo ≤ a.hi ∧ a.hi ≤ M) (hb : b.lo ≤ b.hi ∧ b.hi ≤ M) :
    (s.lo ≤ s.hi ∧ s.hi ≤ M) ∧
      ∀ x, (s.lo ≤ x ∧ x ≤ s.hi) ↔ ((a.lo ≤ x ∧ x ≤ a.hi) ∨ (b.lo ≤ x ∧ x ≤ b.hi)) := by
  have adj : ∀ {a b : Blk}, a.lo ≤ a.hi → (b.lo ≤ b.hi ∧ b.hi ≤ M) → next M a.hi = some b.lo →
      (a.lo ≤ b.hi ∧ b.hi ≤ M) ∧
        ∀ x, (a.lo ≤ x ∧ x ≤ b.hi) ↔ ((a.lo ≤ x ∧ x ≤ a.hi) ∨ (b.lo ≤ x ∧ x ≤ b.hi)) := @fun a b ha hb h =>
    have hn := (next_eq_some.1 h).2
    have hlt : _ < b.lo := hn ▸ Nat.lt_succ_self _
    have hle := Nat.le_trans ha (Nat.le_of_lt hlt)
    ⟨⟨Nat.le_trans hle hb.1, hb.2⟩, extend_iff hle (Nat.le_of_eq hn) (Nat.le_trans (Nat.le_of_lt hlt) hb.1)⟩
  unfold sum at hs
  by_cases h1 : intersects a b = true
  · rw [if_pos h1] at hs
    obtain rfl := Option.some.inj hs
    simp only [intersects, Bool.and_eq_true, decide_eq_true_eq, ge_iff_le] at h1
    refine ⟨⟨Nat.le_trans (Nat.min_le_left ..) (Nat.le_trans ha.1 (Nat.le_max_left ..)),
      Nat.max_le.2 ⟨ha.2, hb.2⟩⟩, fun x => ?_⟩
    show min a.lo b.lo ≤ x ∧ x ≤ max a.hi b.hi ↔ _
    omega
  rw [if_neg h1] at hs
  by_cases h2 : next M a.hi = some b.lo
  · rw [if_pos h2] at hs
    obtain rfl := Option.some.inj hs
    exact adj ha.1 hb h2
  rw [if_neg h2] at hs
  by_cases h3 : next M b.hi = some a.lo
  · rw [if_pos h3] at hs
    obtain rfl := Option.some.inj hs
    exact ⟨(adj hb.1 ha h3).1, fun x => ((adj hb.1 ha h3).2 x).trans Or.comm⟩
  rw [if_neg h3] at hs
  cases hs

theorem mergeOrAdd_spec {M : Nat} (b : Blk) (hb : b.lo ≤ b.hi ∧ b.hi ≤ M) :
    ∀ (res : List Blk), WF M res →
      WF M (mergeOrAdd M res b) ∧
        ∀ x, mem (mergeOrAdd M res b) x ↔ mem res x ∨ (b.lo ≤ x ∧ x ≤ b.hi) := by
  intro res
  induction res with
  | nil => exact fun _ => ⟨wf_cons.2 ⟨hb, wf_nil M⟩, fun x => mem_cons.trans Or.comm⟩
  | cons e es ih =>
    intro hwf
    obtain ⟨he, hes⟩ := wf_cons.1 hwf
    rw [mergeOrAdd]
    split
    next s hs =>
      obtain ⟨s1, s2⟩ := sum_spec hs he hb
      refine ⟨wf_cons.2 ⟨s1, hes⟩, fun x => ?_⟩
      rw [mem_cons, mem_cons, s2 x]
      exact or_right_comm
    next hs =>
      obtain ⟨i1, i2⟩ := ih hes
      refine ⟨wf_cons.2 ⟨he, i1⟩, fun x => ?_⟩
      rw [mem_cons, mem_cons, i2 x]
      exact or_assoc.symm

theorem foldl_spec {M : Nat} : ∀ (bs res : List Blk), WF M res → WF M bs →
    WF M (bs.foldl (mergeOrAdd M) res) ∧
      ∀ x, mem (bs.foldl (mergeOrAdd M) res) x ↔ mem res x ∨ mem bs x := by
  intro bs
  induction bs with
  | nil => exact fun res hres _ => ⟨hres, fun x => (or_iff_left (mem_nil x)).symm⟩
  | cons b bs ih =>
    intro res hres hwf
    obtain ⟨hb, hbs⟩ := wf_cons.1 hwf
    obtain ⟨m1, m2⟩ := mergeOrAdd_spec b hb res hres
    obtain ⟨i1, i2⟩ := ih (mergeOrAdd M res b) m1 hbs
    refine ⟨i1, fun x => ?_⟩
    rw [List.foldl_cons, i2 x, m2 x, mem_cons]
    exact or_assoc

theorem insertByLo_eq (b : Blk) : ∀ l, insertByLo b l = Lists.insertBy (fun a c => a.lo < c.lo) b l
  | [] => rfl
  | y :: ys => by unfold insertByLo Lists.insertBy; rw [insertByLo_eq b ys]

theorem mem_insertByLo (b : Blk) (l : List Blk) (y : Blk) : y ∈ insertByLo b l ↔ y = b ∨ y ∈ l :=
  insertByLo_eq b l ▸ Lists.mem_insertBy _ b l y

theorem sorted_insertByLo (b : Blk) (l : List Blk) (h : l.Pairwise (fun a c => a.lo ≤ c.lo)) :
    (insertByLo b l).Pairwise (fun a c => a.lo ≤ c.lo) :=
  insertByLo_eq b l ▸
    Lists.pairwise_insertBy _ (fun a c : Blk => a.lo ≤ c.lo) b (fun _ => Nat.le_of_lt) (fun _ => Nat.le_of_not_lt) Nat.le_trans l h

theorem mem_sortByLo : ∀ (l : List Blk) (y : Blk), y ∈ sortByLo l ↔ y ∈ l := by
  intro l
  induction l with
  | nil => exact fun y => Iff.rfl
  | cons x xs ih => exact fun y => by rw [sortByLo, mem_insertByLo, ih y, List.mem_cons]

theorem sorted_sortByLo : ∀ (l : List Blk), (sortByLo l).Pairwise (fun a c => a.lo ≤ c.lo) := by
  intro l
  induction l with
  | nil => exact List.Pairwise.nil
  | cons x xs ih => exact sorted_insertByLo x _ ih

theorem mem_lo_le {c : List Blk} {t x : Nat} (h : ∀ b ∈ c, t ≤ b.lo) (hx : mem c x) : t ≤ x :=
  hx.elim fun b hb => Nat.le_trans (h b hb.1) hb.2.1

theorem postPass_spec {M : Nat} (tail : Blk) (rest : List Blk)
    (ht : tail.lo ≤ tail.hi ∧ tail.hi ≤ M) (hwf : WF M rest) (hlo : ∀ b ∈ rest, tail.lo ≤ b.lo)
    (hs : rest.Pairwise (fun a c => a.lo ≤ c.lo)) : Runs M (mem (tail :: rest)) (postPass M tail rest) := by
  fun_induction postPass M tail rest with
  | case1 tail => exact Runs.cons ht (fun x => mem_cons) (fun x hx => absurd hx (mem_nil x)) (Runs.nil mem_nil)
  | case2 tail b rest _ hc ih =>
    obtain ⟨hb, hwf'⟩ := wf_cons.1 hwf
    have hbl : tail.lo ≤ b.lo := hlo b List.mem_cons_self
    have hrl : ∀ y ∈ rest, tail.lo ≤ y.lo := fun y hy => hlo y (List.mem_cons_of_mem _ hy)
    have hc' : b.lo ≤ tail.hi + 1 := hc.elim Nat.le_succ_of_le
      fun h => Nat.le_of_eq (next_eq_some.1 h).2
    by_cases hg : b.hi > tail.hi
    · rw [if_pos hg] at ih ⊢
      refine (ih ⟨Nat.le_trans hbl hb.1, hb.2⟩ hwf' hrl (List.pairwise_cons.1 hs).2).congr fun x => ?_
      rw [mem_cons, mem_cons, mem_cons, ← or_assoc]
      exact or_congr_left (extend_iff hbl hc' (Nat.le_of_lt hg) x).symm
    · rw [if_neg hg] at ih ⊢
      refine (ih ht hwf' hrl (List.pairwise_cons.1 hs).2).congr fun x => ?_
      rw [mem_cons, mem_cons, mem_cons, ← or_assoc]
      exact or_congr_left (or_iff_left_of_imp fun h =>
        ⟨Nat.le_trans hbl h.1, Nat.le_trans h.2 (Nat.le_of_not_lt hg)⟩)
  | case3 tail b rest _ hc ih =>
    obtain ⟨hb, hwf'⟩ := wf_cons.1 hwf
    obtain ⟨hs1, hs2⟩ := List.pairwise_cons.1 hs
    have hgap : tail.hi + 1 < b.lo := by
      have h1 : ¬ b.lo ≤ tail.hi := fun h => hc (Or.inl h)
      have h2 : ¬ (tail.hi < M ∧ b.lo = tail.hi + 1) := fun h => hc (Or.inr (next_eq_some.2 h))
      omega
    exact Runs.cons ht (fun x => mem_cons)
      (fun x hx => Nat.lt_of_lt_of_le hgap (mem_lo_le (List.forall_mem_cons.2 ⟨Nat.le_refl _, hs1⟩) hx))
      (ih hb hwf' hs1 hs2)
  | case4 _ _ _ h => exact absurd postPassFlag h
  | case5 _ _ _ h => exact absurd postPassFlag h

theorem fromIterUnsorted_spec {M : Nat} (res : List Blk) (b : Blk) (rest : List Blk)
    (hres : WF M res) (hb : WF M (b :: rest)) :
    Runs M (fun x => mem res x ∨ mem (b :: rest) x) (fromIterUnsorted M res b rest) := by
  obtain ⟨f1, f2⟩ := foldl_spec (b :: rest) res hres hb
  unfold fromIterUnsorted
  generalize ((b :: rest).foldl (mergeOrAdd M) res) = l at f1 f2
  have s1 := mem_sortByLo l
  have s2 := sorted_sortByLo l
  have hm : ∀ x, mem (sortByLo l) x ↔ mem l x := fun x =>
    ⟨fun ⟨z, hz, h⟩ => ⟨z, (s1 z).1 hz, h⟩, fun ⟨z, hz, h⟩ => ⟨z, (s1 z).2 hz, h⟩⟩
  generalize sortByLo l = sl at s1 s2 hm
  cases sl with
  | nil => exact ⟨canon_nil M, fun x => (hm x).trans (f2 x)⟩
  | cons y ys =>
    obtain ⟨hy, hys⟩ := wf_cons.1 fun z hz => f1 z ((s1 z).1 hz)
    obtain ⟨p1, p2⟩ := List.pairwise_cons.1 s2
    obtain ⟨i1, i2⟩ := postPass_spec y ys hy hys p1 p2
    exact ⟨i1, fun x => (i2 x).trans ((hm x).trans (f2 x))⟩

/-- the block `b` goes into the last block kept, which becomes `n` -/
theorem merge_runs {M : Nat} {last n b : Blk} {res' rest r : List Blk} (hres : Canon M (last :: res').reverse)
    (hn : n.lo ≤ n.hi ∧ n.hi ≤ M) (hlo : n.lo = last.lo)
    (hx : ∀ x, (n.lo ≤ x ∧ x ≤ n.hi) ↔ (last.lo ≤ x ∧ x ≤ last.hi) ∨ (b.lo ≤ x ∧ x ≤ b.hi))
    (ih : Canon M (n :: res').reverse → Runs M (fun x => mem (n :: res') x ∨ mem rest x) r) :
    Runs M (fun x => mem (last :: res') x ∨ mem (b :: rest) x) r := by
  obtain ⟨-, hp, hr'⟩ := canon_snoc.1 hres
  refine (ih (canon_snoc.2 ⟨hn, hlo ▸ hp, hr'⟩)).congr fun x => ?_
  rw [mem_cons, mem_cons, mem_cons, hx x]
  exact ((or_congr_left or_right_comm).trans or_assoc).symm

theorem fromIterAux_spec {M : Nat} (res rest : List Blk) (hres : Canon M res.reverse) (hwf : WF M rest) :
    Runs M (fun x => mem res x ∨ mem rest x) (fromIterAux M res rest) := by
  fun_induction fromIterAux M res rest with
  | case1 res => exact ⟨hres, fun x => mem_reverse.trans (or_iff_left (mem_nil x)).symm⟩
  | case2 b rest ih =>
    refine (ih (canon_snoc.2 ⟨(wf_cons.1 hwf).1, nofun, hres⟩) (wf_cons.1 hwf).2).congr fun x => ?_
    rw [mem_cons (c := rest), or_iff_right (mem_nil x)]
    exact or_congr_left (mem_cons.trans (or_iff_left (mem_nil x))).symm
  | case3 last res' b rest c1 =>
    exact (fromIterUnsorted_spec (M := M) (last :: res').reverse b rest hres.1 hwf).congr fun x => by
      rw [mem_reverse]
  | case4 last res' b rest c1 c2 c3 ih =>
    obtain ⟨hb, hwf'⟩ := wf_cons.1 hwf
    have c1' : last.lo ≤ b.lo := Nat.le_of_not_lt c1
    exact merge_runs (n := ⟨last.lo, b.hi⟩) hres ⟨Nat.le_trans c1' hb.1, hb.2⟩ rfl
      (extend_iff c1' (Nat.le_succ_of_le c2) (Nat.le_of_lt c3)) (ih · hwf')
  | case5 last res' b rest c1 c2 c3 ih =>
    have c1' : last.lo ≤ b.lo := Nat.le_of_not_lt c1
    exact merge_runs hres (canon_snoc.1 hres).1 rfl (fun x => (or_iff_left_of_imp fun h =>
      ⟨Nat.le_trans c1' h.1, Nat.le_trans h.2 (Nat.le_of_not_lt c3)⟩).symm) (ih · (wf_cons.1 hwf).2)
  | case6 last res' b rest c1 c2 c4 ih =>
    obtain ⟨hb, hwf'⟩ := wf_cons.1 hwf
    have c1' : last.lo ≤ b.lo := Nat.le_of_not_lt c1
    exact merge_runs (n := ⟨last.lo, b.hi⟩) hres ⟨Nat.le_trans c1' hb.1, hb.2⟩ rfl
      (extend_iff c1' (Nat.le_of_eq (next_eq_some.1 c4).2) (Nat.le_trans (Nat.le_of_not_le c2) hb.1)) (ih · hwf')
  | case7 last res' b rest c1 c2 c4 ih =>
    obtain ⟨hb, hwf'⟩ := wf_cons.1 hwf
    obtain ⟨hl, hp, -⟩ := canon_snoc.1 hres
    have hgap : last.hi + 1 < b.lo := by
      have h2 : ¬ (last.hi < M ∧ b.lo = last.hi + 1) := fun h => c4 (next_eq_some.2 h)
      omega
    have hlt : ∀ y ∈ last :: res', y.hi + 1 < b.lo := fun y hy =>
      (List.mem_cons.1 hy).elim (fun e => e ▸ hgap) fun e => Nat.lt_trans (hp y e)
        (Nat.lt_of_le_of_lt hl.1 (Nat.lt_trans (Nat.lt_succ_self _) hgap))
    refine (ih (canon_snoc.2 ⟨hb, hlt, hres⟩) hwf').congr fun x => ?_
    rw [mem_cons (b := b) (c := last :: res'), mem_cons (b := b) (c := rest)]
    exact ((or_congr_left Or.comm).trans or_assoc).symm

theorem fromIter_spec' (M : Nat) (bs : List Blk) (h : ∀ b ∈ bs, b.lo ≤ b.hi ∧ b.hi ≤ M) :
    Canon M (fromIter M bs) ∧ ∀ x, mem (fromIter M bs) x ↔ ∃ b ∈ bs, b.lo ≤ x ∧ x ≤ b.hi :=
  (fromIterAux_spec (M := M) [] bs (canon_nil M) h).congr fun x => (or_iff_right (mem_nil x)).symm

theorem fromIter_canon_id (M : Nat) (c : List Blk) (hc : Canon M c) : fromIter M c = c := by
  obtain ⟨h1, h2⟩ := fromIter_spec' M c hc.1
  exact canon_unique' M _ _ h1 hc h2

end Rpki.Chain
