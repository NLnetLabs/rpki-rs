/-
  What the reference reader returns for the elements the RRDP and CA-protocol writers emit: `Reads t t'`, with one
  rule per shape of element (no children, child elements, one text line, one Base64 line).  First what `WF0`,
  `stripKids` and the writer do on trees built from lists and single text lines, from which the rules are proved.
-/
import Rpki.Proofs.XmlDocLemmas
namespace Rpki.XmlDoc
open Rpki.Xml

theorem ofList_WF0 (l : List Node) (h : ∀ n ∈ l, n.WF0 ∧ ∃ name attrs body, n = Node.elem name attrs body) :
    (Nodes.ofList l).WF0 := by
  induction l with
  | nil => rw [Nodes.ofList, Nodes.WF0]; trivial
  | cons n ns ih =>
    obtain ⟨hn, name, attrs, body, rfl⟩ := h n List.mem_cons_self
    rw [Nodes.ofList, Nodes.WF0_cons]
    exact ⟨hn, ih (fun x hx => h x (List.mem_cons_of_mem _ hx)), trivial⟩

theorem stripKids_ofList (l : List Node) (h : ∀ n ∈ l, ∃ name attrs body, n = Node.elem name attrs body) :
    stripKids (Nodes.ofList l) = Nodes.ofList (l.map strip) := by
  induction l with
  | nil => rw [Nodes.ofList, stripKids_nil]; rfl
  | cons n ns ih =>
    obtain ⟨name, attrs, body, rfl⟩ := h _ List.mem_cons_self
    rw [Nodes.ofList, stripKids_elem, ih (fun x hx => h x (List.mem_cons_of_mem _ hx))]
    rfl

theorem writeKids_ofList (level : Nat) (kids : List Node) :
    writeKids level (Nodes.ofList kids) =
      (kids.map fun k => [10] ++ indentOf level ++ writeNode level k).flatten := by
  induction kids with
  | nil => rw [Nodes.ofList, writeKids_nil]; rfl
  | cons k ks ih =>
    rw [Nodes.ofList, writeKids_cons, ih]
    simp

abbrev AttrsOk (a : List (Bytes × Bytes)) : Prop := ∀ x ∈ a, NameOk x.1 ∧ ValueOk x.2

theorem ok_nil : AttrsOk [] := fun _ h => nomatch h

theorem ok_cons {n v : Bytes} {rest : List (Bytes × Bytes)} (hn : NameOk n) (hv : ValueOk v)
    (h : AttrsOk rest) : AttrsOk ((n, v) :: rest) := by
  intro a ha
  rcases List.mem_cons.mp ha with rfl | h'
  · exact ⟨hn, hv⟩
  · exact h a h'

theorem ok_append {l1 l2 : List (Bytes × Bytes)} (h1 : AttrsOk l1) (h2 : AttrsOk l2) : AttrsOk (l1 ++ l2) := by
  intro a ha
  rcases List.mem_append.mp ha with h | h
  · exact h1 a h
  · exact h2 a h

theorem textKid_WF0 (t : Bytes) (h : t = [] ∨ TextOk t) : (Nodes.cons (.text t) .nil).WF0 := by
  rw [Nodes.WF0_cons, Node.WF0_text]
  exact ⟨h, by rw [Nodes.WF0]; trivial, fun h => h⟩

theorem stripKids_textKid (t : Bytes) :
    stripKids (.cons (.text t) .nil) = if t = [] then .nil else .cons (.text t) .nil := by
  by_cases h : t = []
  · rw [if_pos h, h, stripKids_text_nil, stripKids_nil]
  · rw [if_neg h, stripKids_text t _ h, stripKids_nil]

theorem textOk_b64Encode (d : Bytes) (hne : d ≠ []) : TextOk (b64Encode d) :=
  .of_forall_mem (mt b64Encode_eq_nil.mp hne) (not_mem_b64Encode_60 d) fun c hc =>
    isWs_of_lt (Nat.lt_of_lt_of_le (by decide) (mem_b64Encode_range d c hc).1)

theorem b64Encode_line (d : Bytes) : b64Encode d = [] ∨ TextOk (b64Encode d) :=
  (Decidable.em (d = [])).imp b64Encode_eq_nil.mpr (textOk_b64Encode d)

/-- the element `t`, written by `writeDoc`, is read back by `parseDoc` as `t'` -/
def Reads (t t' : Node) : Prop := (∃ n a b, t = .elem n a b) ∧ t.WF0 ∧ strip t = t'

/-- `Reads`, child by child -/
def ReadsL (ks ks' : List Node) : Prop := (∀ k ∈ ks, (∃ n a b, k = Node.elem n a b) ∧ k.WF0) ∧ ks.map strip = ks'

theorem Reads.parse {t t' : Node} (h : Reads t t') : parseDoc (writeDoc t) = some t' :=
  h.2.2 ▸ parse_write0 t h.2.1 h.1

theorem Reads.wf {t : Node} (h : Reads t t) : t.WF := by
  obtain ⟨⟨n, a, b, rfl⟩, h0, hs⟩ := h
  exact (elem_WF_iff n a b).2 ⟨h0, hs⟩

theorem ReadsL.nil : ReadsL [] [] := ⟨nofun, rfl⟩

theorem ReadsL.cons {k k' : Node} {ks ks' : List Node} (h : Reads k k') (hs : ReadsL ks ks') :
    ReadsL (k :: ks) (k' :: ks') :=
  ⟨List.forall_mem_cons.2 ⟨⟨h.1, h.2.1⟩, hs.1⟩, by rw [List.map_cons, h.2.2, hs.2]⟩

theorem ReadsL.one {k k' : Node} (h : Reads k k') : ReadsL [k] [k'] := .cons h .nil

theorem ReadsL.append {a a' b b' : List Node} (ha : ReadsL a a') (hb : ReadsL b b') : ReadsL (a ++ b) (a' ++ b') :=
  ⟨fun k hk => (List.mem_append.1 hk).elim (ha.1 k) (hb.1 k), by rw [List.map_append, ha.2, hb.2]⟩

theorem ReadsL.map {α : Type} (l : List α) (f g : α → Node) (h : ∀ x ∈ l, Reads (f x) (g x)) :
    ReadsL (l.map f) (l.map g) := by
  refine ⟨fun k hk => ?_, ?_⟩
  · obtain ⟨x, hx, rfl⟩ := List.mem_map.1 hk
    exact ⟨(h x hx).1, (h x hx).2.1⟩
  · rw [List.map_map]
    exact List.map_congr_left fun x hx => (h x hx).2.2

theorem Reads.leaf {n : Bytes} {a : List (Bytes × Bytes)} (hn : NameOk n) (ha : AttrsOk a) :
    Reads (.elem n a none) (.elem n a none) :=
  ⟨⟨_, _, _, rfl⟩, (Node.WF0_elem ..).2 ⟨hn, ha, trivial⟩, strip_elem_none n a⟩

theorem Reads.node {n : Bytes} {a : List (Bytes × Bytes)} {ks ks' : List Node} (hn : NameOk n) (ha : AttrsOk a)
    (hk : ReadsL ks ks') : Reads (.elem n a (some (Nodes.ofList ks))) (.elem n a (some (Nodes.ofList ks'))) :=
  ⟨⟨_, _, _, rfl⟩, (Node.WF0_elem ..).2 ⟨hn, ha, ofList_WF0 ks fun k h => ⟨(hk.1 k h).2, (hk.1 k h).1⟩⟩, by
    rw [strip_elem_some, stripKids_ofList ks fun k h => (hk.1 k h).1, hk.2]⟩

def b64Body (d : Bytes) : Option Nodes := some (.cons (.text (b64Encode d)) .nil)

/-- the body the reference reader returns for `b64Body d`: no text line for empty octets -/
def readBackBody (d : Bytes) : Option Nodes := some (if d = [] then .nil else .cons (.text (b64Encode d)) .nil)

theorem readBackBody_of_ne {d : Bytes} (h : d ≠ []) : readBackBody d = b64Body d := by
  rw [readBackBody, if_neg h]; rfl

theorem Reads.b64 {n : Bytes} {a : List (Bytes × Bytes)} (hn : NameOk n) (ha : AttrsOk a) (d : Bytes) :
    Reads (.elem n a (b64Body d)) (.elem n a (readBackBody d)) :=
  ⟨⟨_, _, _, rfl⟩, (Node.WF0_elem ..).2 ⟨hn, ha, textKid_WF0 _ (b64Encode_line d)⟩, by
    rw [b64Body, strip_elem_some, stripKids_textKid, readBackBody]; simp only [b64Encode_eq_nil]⟩

theorem Reads.text {n : Bytes} {a : List (Bytes × Bytes)} {t : Bytes} (hn : NameOk n) (ha : AttrsOk a)
    (ht : TextOk t) : Reads (.elem n a (some (.cons (.text t) .nil))) (.elem n a (some (.cons (.text t) .nil))) :=
  ⟨⟨_, _, _, rfl⟩, (Node.WF0_elem ..).2 ⟨hn, ha, textKid_WF0 t (.inr ht)⟩, by
    rw [strip_elem_some, stripKids_text t _ ht.1, stripKids_nil]⟩

/- for a family whose tree is given case by case (`IdxMsg.toTree`) -/
def Node.name : Node → Bytes
  | .elem n _ _ => n
  | .text _ => []
def Node.attrs : Node → List (Bytes × Bytes)
  | .elem _ a _ => a
  | .text _ => []

/-- A message family gives the tree it writes, the tree that is read back, and a reader of the latter. -/
theorem read_write_of {α : Type} {toTree readTree : α → Node} {ofTree : Node → Option α} {norm : α → α}
    {P : α → Prop} (hr : ∀ m, P m → Reads (toTree m) (readTree m))
    (ho : ∀ m, P m → ofTree (readTree m) = some (norm m)) (m : α) (hm : P m) :
    (parseDoc (writeDoc (toTree m))).bind ofTree = some (norm m) := by
  rw [(hr m hm).parse, Option.bind_some, ho m hm]

end Rpki.XmlDoc
