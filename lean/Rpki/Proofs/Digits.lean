/-
  Numbers as the text writers put them: `decimal` and `hexLower` write the digits of a number, most significant
  first, and those digits give the number back (`digits_spec`, for any base).  Also what the readers need of
  `splitOn`.
-/
import Rpki.Model.ResText
namespace Rpki.ResText

theorem splitOn_append (sep : Nat) (p : Bytes) (hp : ∀ c ∈ p, c ≠ sep) : ∀ (r cur : Bytes),
    splitOn sep (p ++ r) cur = splitOn sep r (p.reverse ++ cur) := by
  induction p with
  | nil => intro r cur; rfl
  | cons x p ih =>
    intro r cur
    rw [List.cons_append, splitOn, if_neg (hp x List.mem_cons_self), ih fun c hc => hp c (List.mem_cons_of_mem _ hc),
      List.reverse_cons, List.append_assoc]
    rfl

theorem splitOn_sep (sep : Nat) (p r : Bytes) (hp : ∀ c ∈ p, c ≠ sep) :
    splitOn sep (p ++ sep :: r) [] = p :: splitOn sep r [] := by
  rw [splitOn_append sep p hp, splitOn, if_pos rfl, List.append_nil, List.reverse_reverse]

theorem splitOn_last (sep : Nat) (p : Bytes) (hp : ∀ c ∈ p, c ≠ sep) : splitOn sep p [] = [p] := by
  have := splitOn_append sep p hp [] []
  rwa [List.append_nil, List.append_nil, splitOn, List.reverse_reverse] at this

theorem splitOn_mem (sep c : Nat) (hc : c ≠ sep) : ∀ (b cur : Bytes), c ∈ cur.reverse ++ b →
    ∃ p ∈ splitOn sep b cur, c ∈ p := by
  intro b
  induction b with
  | nil =>
    intro cur h
    exact ⟨cur.reverse, List.mem_singleton.2 rfl, by rwa [List.append_nil] at h⟩
  | cons x rest ih =>
    intro cur h
    rw [splitOn]
    by_cases hx : x = sep
    · rw [if_pos hx]
      rcases List.mem_append.1 h with h | h
      · exact ⟨cur.reverse, List.mem_cons_self, h⟩
      · obtain ⟨p, hp, hcp⟩ := ih [] ((List.mem_cons.1 h).resolve_left fun e => hc (e.trans hx))
        exact ⟨p, List.mem_cons_of_mem _ hp, hcp⟩
    · rw [if_neg hx]
      exact ih (x :: cur) (by rwa [List.reverse_cons, List.append_assoc])

/-- `decAux` and `hexAux` are instances: their defining equation is `hs`, by `rfl` -/
theorem digits_spec (b : Nat) (hb : 2 ≤ b) (dig : Nat → Nat) (aux : Nat → Nat → Bytes → Bytes)
    (hs : ∀ fuel n acc, aux (fuel + 1) n acc =
      if n < b then dig n :: acc else aux fuel (n / b) (dig (n % b) :: acc)) :
    ∀ (fuel n : Nat) (acc : Bytes), n < fuel →
      ∃ ds : List Nat, aux fuel n acc = ds.map dig ++ acc ∧ ds ≠ [] ∧ (∀ d ∈ ds, d < b) ∧
        ds.foldl (fun v d => v * b + d) 0 = n ∧ (0 < n → ds.head? ≠ some 0) ∧
        ∀ k, n < b ^ (k + 1) → ds.length ≤ k + 1 := by
  intro fuel
  induction fuel with
  | zero => intro n acc h; omega
  | succ fuel ih =>
    intro n acc h
    rw [hs]
    by_cases hn : n < b
    · rw [if_pos hn]
      refine ⟨[n], rfl, List.cons_ne_nil _ _, fun d hd => ?_, ?_, fun h0 e => ?_, fun k _ => Nat.le_add_left 1 k⟩
      · rw [List.mem_singleton.1 hd]; exact hn
      · rw [List.foldl_cons, List.foldl_nil, Nat.zero_mul, Nat.zero_add]
      · exact Nat.ne_of_gt h0 (Option.some.inj e)
    · have hbn : b ≤ n := Nat.le_of_not_lt hn
      have hlt : n / b < n := Nat.div_lt_self (by omega) (by omega)
      obtain ⟨ds, h1, h2, h3, h4, h5, h6⟩ := ih (n / b) (dig (n % b) :: acc) (by omega)
      rw [if_neg hn, h1]
      refine ⟨ds ++ [n % b], ?_, List.append_ne_nil_of_left_ne_nil h2 _, fun d hd => ?_, ?_, fun _ => ?_,
        fun k hk => ?_⟩
      · rw [List.map_append, List.append_assoc]; rfl
      · rcases List.mem_append.1 hd with hd | hd
        · exact h3 d hd
        · rw [List.mem_singleton.1 hd]; exact Nat.mod_lt _ (by omega)
      · rw [List.foldl_append, h4, List.foldl_cons, List.foldl_nil, Nat.div_add_mod']
      · cases ds with
        | nil => exact absurd rfl h2
        | cons d ds => exact h5 (Nat.div_pos hbn (by omega))
      · cases k with
        | zero => rw [Nat.zero_add, Nat.pow_one] at hk; omega
        | succ k =>
          have := h6 k (Nat.div_lt_of_lt_mul (by rw [Nat.pow_succ, Nat.mul_comm] at hk; exact hk))
          rw [List.length_append, List.length_singleton]; omega

theorem decimal_spec (n : Nat) : ∃ ds : List Nat, decimal n = ds.map (48 + ·) ∧ ds ≠ [] ∧ (∀ d ∈ ds, d < 10) ∧
    ds.foldl (fun v d => v * 10 + d) 0 = n ∧ (0 < n → ds.head? ≠ some 0) ∧
    ∀ k, n < 10 ^ (k + 1) → ds.length ≤ k + 1 := by
  obtain ⟨ds, e, h⟩ := digits_spec 10 (by decide) (48 + ·) decAux (fun _ _ _ => rfl) (n + 1) n [] (Nat.lt_succ_self n)
  exact ⟨ds, e.trans (List.append_nil _), h⟩

theorem decimal_lt10 (n : Nat) (h : n < 10) : decimal n = [48 + n] := by
  unfold decimal
  rw [decAux, if_pos h]

theorem decimal_digits (n : Nat) : (decimal n) ≠ [] ∧ ∀ c ∈ decimal n, 48 ≤ c ∧ c ≤ 57 := by
  obtain ⟨ds, e, hne, hlt, _⟩ := decimal_spec n
  rw [e]
  refine ⟨fun h => hne (List.map_eq_nil_iff.1 h), fun c hc => ?_⟩
  obtain ⟨d, hd, rfl⟩ := List.mem_map.1 hc
  have := hlt d hd
  omega

theorem decimal_value (n : Nat) : (decimal n).foldl (fun acc c => acc * 10 + (c - 48)) 0 = n := by
  obtain ⟨ds, e, _, _, hv, _⟩ := decimal_spec n
  rw [e, List.foldl_map]
  simp only [Nat.add_sub_cancel_left]
  exact hv

theorem decimal_head (n : Nat) : ∃ c r, decimal n = c :: r ∧ 48 ≤ c ∧ c ≤ 57 ∧ (0 < n → c ≠ 48) := by
  obtain ⟨ds, e, hne, hlt, _, hh, _⟩ := decimal_spec n
  cases ds with
  | nil => exact absurd rfl hne
  | cons d ds =>
    have := hlt d List.mem_cons_self
    exact ⟨48 + d, ds.map (48 + ·), e, by omega, by omega, fun h0 hc => hh h0 (congrArg some (by omega))⟩

/-- the leading-zero test of the number readers (`parseOctet`, `JsonRead.readNum`) does not fire on a written
number -/
theorem decimal_no_leading_zero (n : Nat) : ¬ ((decimal n).length > 1 ∧ (decimal n).head? = some 48) := by
  rintro ⟨hl, hh⟩
  by_cases h0 : n = 0
  · rw [h0, decimal_lt10 0 (by decide)] at hl
    exact absurd hl (by decide)
  · obtain ⟨c, r, e, _, _, h3⟩ := decimal_head n
    rw [e, List.head?_cons] at hh
    exact h3 (by omega) (Option.some.inj hh)

theorem decimal_all_isDigit (n : Nat) : (decimal n).all isDigit = true := by
  rw [List.all_eq_true]
  intro c hc
  have := (decimal_digits n).2 c hc
  simp only [isDigit, Bool.and_eq_true, decide_eq_true_eq]
  exact this

theorem decimal_ne (n sep : Nat) (h : sep < 48) : ∀ c ∈ decimal n, c ≠ sep := by
  intro c hc
  have := (decimal_digits n).2 c hc
  omega

theorem decimal_injective (a b : Nat) (h : decimal a = decimal b) : a = b := by
  rw [← decimal_value a, h, decimal_value]

theorem decimal_length (k n : Nat) (h : n < 10 ^ (k + 1)) : (decimal n).length ≤ k + 1 := by
  obtain ⟨ds, e, _, _, _, _, hl⟩ := decimal_spec n
  rw [e, List.length_map]
  exact hl k h

theorem hexDigit_range (d : Nat) (h : d < 16) :
    (48 ≤ hexDigit d ∧ hexDigit d ≤ 57) ∨ (97 ≤ hexDigit d ∧ hexDigit d ≤ 102) := by
  unfold hexDigit; split <;> omega

theorem hexVal_hexDigit (d : Nat) (h : d < 16) : hexVal (hexDigit d) = some d := by
  unfold hexDigit
  by_cases h10 : d < 10
  · rw [if_pos h10, hexVal, if_pos (by omega), Nat.add_sub_cancel_left]
  · rw [if_neg h10, hexVal, if_neg (by omega), if_pos (by omega), Nat.add_sub_cancel_left]

theorem hexVal_lt (c v : Nat) (h : hexVal c = some v) : v < 16 := by
  revert h
  fun_cases hexVal c <;> intro h <;> cases h <;> omega

theorem hexLower_spec (n : Nat) : ∃ ds : List Nat, hexLower n = ds.map hexDigit ∧ ds ≠ [] ∧ (∀ d ∈ ds, d < 16) ∧
    ds.foldl (fun v d => v * 16 + d) 0 = n ∧ (0 < n → ds.head? ≠ some 0) ∧
    ∀ k, n < 16 ^ (k + 1) → ds.length ≤ k + 1 := by
  obtain ⟨ds, e, h⟩ := digits_spec 16 (by decide) hexDigit hexAux (fun _ _ _ => rfl) (n + 1) n [] (Nat.lt_succ_self n)
  exact ⟨ds, e.trans (List.append_nil _), h⟩

theorem hexLower_chars (g : Nat) :
    hexLower g ≠ [] ∧ ∀ c ∈ hexLower g, (48 ≤ c ∧ c ≤ 57) ∨ (97 ≤ c ∧ c ≤ 102) := by
  obtain ⟨ds, e, hne, hlt, _⟩ := hexLower_spec g
  rw [e]
  refine ⟨fun h => hne (List.map_eq_nil_iff.1 h), fun c hc => ?_⟩
  obtain ⟨d, hd, rfl⟩ := List.mem_map.1 hc
  exact hexDigit_range d (hlt d hd)

theorem hexLower_no58 (g : Nat) : ∀ c ∈ hexLower g, c ≠ 58 := by
  intro c hc
  have := (hexLower_chars g).2 c hc
  omega

end Rpki.ResText
