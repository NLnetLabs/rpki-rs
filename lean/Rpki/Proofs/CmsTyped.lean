/-
  The typed decoders of `Model/CmsDer.lean` (`Roa::decode`, `Aspa::decode`, `Manifest::decode`), either mode: beyond the
  signed-object decoder, the content decoder accepted the content of the type asked for.  Free of Mathlib, so that
  `Props/C14` can use it.
-/
import Rpki.Gen.BerModel
namespace Rpki.CmsDer
open Rpki.Der

theorem decodeTypedM_content (ber : Bool) (ty : String) (b : Bytes) (o : SigObjD) :
    decodeTypedM ber ty b = some o →
    (ty = "roa" → (Roa.decodeContent o.content).isSome) ∧
    (ty = "aspa" → (Roa.decodeAspa Consts.aspaObjMaxLen o.content).isSome) ∧
    (ty = "mft" → (Manifest.decodeContent o.content).isSome) := by
  fun_cases decodeTypedM ber ty b
  all_goals intro h
  all_goals try (cases h; done)
  -- on each accepted path `ty` is one of the three names, with the content decoder's verdict beside it, or none of them
  all_goals (cases h; refine ⟨fun e => ?_, fun e => ?_, fun e => ?_⟩ <;> subst e <;> simp_all)

end Rpki.CmsDer
