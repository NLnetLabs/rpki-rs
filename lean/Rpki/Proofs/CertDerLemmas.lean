/-
  The certificate decoder model (`Model/CertDer.lean`): whatever octets decode, the claimed resources of the result
  are canonical chains — the hypothesis `ClaimsCanon` of the C01 theorems.  `fooM (ber : Bool)` is about the reader in
  either decoding mode; `foo` after it is its instance for the DER model.  At the end, the leaf readers on what a
  writer wrote (`takeOid_tlv`, `takeOptBool_*`, `takeBitString_enc` …), from which every writer's file starts.
-/
import Rpki.Proofs.IpDerCodec
import Rpki.Proofs.ManifestCodec
import Rpki.Gen.BerEq
namespace Rpki.CertDer
open Rpki.Der Rpki.Chain

-- a step of a reader chain is fetched by its type (`‹takeConsM _ _ b = some _›`); that search must not unfold the readers
attribute [local irreducible] takeConsM takePrimM takeOptConsM takeCons takePrim

/-- claimed blocks, if any, are a canonical chain below `M` -/
def ClaimCanon (M : Nat) : Claim → Prop
  | .blocks c => Canon M c
  | _ => True

/-- the same for a claim that may not have been read yet -/
def OptClaimCanon (M : Nat) : Option Claim → Prop
  | some cl => ClaimCanon M cl
  | none => True

theorem claimCanon_iff (M : Nat) (cl : Claim) : ClaimCanon M cl ↔ ∀ c, cl = .blocks c → Canon M c := by
  cases cl with
  | blocks c => exact ⟨fun h _ e => by cases e; exact h, fun h => h c rfl⟩
  | missing => exact ⟨fun _ _ e => (nomatch e), fun _ => trivial⟩
  | inherit => exact ⟨fun _ _ e => (nomatch e), fun _ => trivial⟩

theorem OptClaimCanon.getD {M : Nat} {o : Option Claim} (h : OptClaimCanon M o) : ClaimCanon M (o.getD .missing) := by
  cases o with
  | none => trivial
  | some cl => exact h

theorem fromIter_div_canon (M k : Nat) (hk : 0 < k) (c : List Blk) (h : ∀ b ∈ c, b.lo ≤ b.hi ∧ b.hi < (M + 1) * k) :
    Canon M (fromIter M (c.map fun b => ⟨b.lo / k, b.hi / k⟩)) := by
  refine (fromIter_spec' M _ fun blk hblk => ?_).1
  obtain ⟨b, hb, rfl⟩ := List.mem_map.1 hblk
  exact ⟨Nat.div_le_div_right (h b hb).1, Nat.le_of_lt_succ ((Nat.div_lt_iff_lt_mul hk).2 (h b hb).2)⟩

theorem foldCons_invM (ber : Bool) {σ : Type} (P : σ → Prop) (tag : Nat) (f : σ → Bytes → Option σ)
    (hf : ∀ s c s', AllBytes c → P s → f s c = some s' → P s') (fuel : Nat) (b : Bytes) (s s' : σ)
    (hb : AllBytes b) (hp : P s) (h : foldConsM ber tag f fuel b s = some s') : P s' := by
  revert h hp hb
  fun_induction foldConsM ber tag f fuel b s <;> intro hb hp h <;> try (cases h; done)
  · cases h; exact hp
  · cases h; exact hp
  next ih =>
    obtain ⟨s1, s2⟩ := Der.takeOptCons_subM ber _ _ _ _ ‹takeOptConsM _ _ _ = .ok _ _›
    exact ih (allBytes_of_sub hb s2) (hf _ _ _ (allBytes_of_sub hb s1) hp ‹f _ _ = some _›) h

theorem foldCons_inv {σ : Type} (P : σ → Prop) (tag : Nat) (f : σ → Bytes → Option σ)
    (hf : ∀ s c s', AllBytes c → P s → f s c = some s' → P s') :
    ∀ (fuel : Nat) (b : Bytes) (s s' : σ), AllBytes b → P s → foldCons tag f fuel b s = some s' → P s' := by
  intro fuel b s s' hb hp h
  rw [← foldConsM_false] at h
  exact foldCons_invM false P tag f hf fuel b s s' hb hp h

theorem takeIpChoice_canon (W : Nat) (b : Bytes) (hb : AllBytes b) (cl : Claim)
    (h : takeIpChoice W b = some cl) : ClaimCanon IpDer.maxAddr cl := by
  -- no `fun_cases` here: `takeIpChoice` matches on `b` and then reads `b` again, which leaves the second match in `h`
  unfold takeIpChoice at h
  split at h
  · cases h
  next t _ =>
  obtain ⟨_, h⟩ := Option.ite_none_left_eq_some.1 h
  split at h
  · cases h
  next v r hr =>
  obtain ⟨_, h⟩ := Option.ite_none_left_eq_some.1 h
  by_cases c1 : tagNoCons t = tagNull
  · rw [if_pos c1] at h
    obtain ⟨_, h⟩ := Option.ite_none_left_eq_some.1 h
    injection h with h; subst h; trivial
  rw [if_neg c1] at h
  obtain ⟨_, h⟩ := Option.ite_none_right_eq_some.1 h
  obtain ⟨_, h⟩ := Option.ite_none_left_eq_some.1 h
  obtain ⟨bs, hl, rfl⟩ := Option.map_eq_some_iff.1 h
  have hv := allBytes_of_sub hb (readTlv_hands _ _ _ _ hr).sub.1
  exact (fromIter_spec' IpDer.maxAddr bs (IpDer.blocksLoop_sound W _ _ _ hv hl)).1

/-- the invariant of the loop over address families (`takeIpFamilies`): the families read so far are canonical -/
def FamCanon (s : Option Claim × Option Claim) : Prop :=
  OptClaimCanon IpDer.maxAddr s.1 ∧ OptClaimCanon IpDer.maxAddr s.2

theorem ipFamily_canon (s : Option Claim × Option Claim) (c : Bytes) (s' : Option Claim × Option Claim)
    (hc : AllBytes c) (hs : FamCanon s) (h : ipFamily s c = some s') : FamCanon s' := by
  revert h
  fun_cases ipFamily s c <;> intro h <;> try cases h
  all_goals
    obtain ⟨cl, hcl, rfl⟩ := Option.map_eq_some_iff.1 h
    have hcan := takeIpChoice_canon _ _
      (allBytes_of_sub hc (Der.takePrim_sub _ _ _ _ ‹takePrim _ c = some _›).2) cl hcl
  · exact ⟨hcan, hs.2⟩
  · exact ⟨hs.1, hcan⟩

theorem takeIpFamilies_canon (v : Bytes) (hv : AllBytes v) (f : Option Claim × Option Claim)
    (h : takeIpFamilies v = some f) : FamCanon f := by
  revert h
  fun_cases takeIpFamilies v <;> intro h <;> try cases h
  exact foldCons_inv FamCanon tagSeq ipFamily ipFamily_canon _ _ (none, none) f
    (allBytes_of_sub hv (Der.takeCons_sub _ _ _ _ ‹takeCons _ v = some _›).1) ⟨trivial, trivial⟩ h

/-- the invariant of the loop over the extensions (`decodeTbs`): the resources read so far are canonical -/
def ExtsCanon (e : Exts) : Prop :=
  (∀ f, e.ip = some f → FamCanon f) ∧ OptClaimCanon AsDer.maxAs e.asn

theorem extsCanon_default : ExtsCanon {} := ⟨(by intro f h; cases h), trivial⟩

/-- closes `h : … = some e' ⊢ e'.ip = e.ip ∧ e'.asn = e.asn` by splitting `h` all the way down -/
macro "frame_tac" h:ident : tactic => `(tactic|
  (repeat' (split at $h:ident)
   all_goals first
     | (cases $h:ident; done)
     | (injection $h:ident with $h:ident; subst $h:ident; exact ⟨rfl, rfl⟩)))

theorem xIpResources_spec (e : Exts) (v2 : Bool) (v : Bytes) (e' : Exts)
    (h : xIpResources e v2 v = some e') : ∃ f, takeIpFamilies v = some f ∧ e'.ip = some f ∧ e'.asn = e.asn := by
  revert h
  fun_cases xIpResources e v2 v <;> intro h <;> try (cases h; done)
  cases h
  exact ⟨_, ‹takeIpFamilies v = some _›, rfl, rfl⟩

theorem xAsResources_spec (e : Exts) (v2 : Bool) (v : Bytes) (e' : Exts)
    (h : xAsResources e v2 v = some e') : ∃ a, AsDer.decodeExt v = some a ∧ e'.asn = some a ∧ e'.ip = e.ip := by
  revert h
  fun_cases xAsResources e v2 v <;> intro h <;> try (cases h; done)
  cases h
  exact ⟨_, ‹AsDer.decodeExt v = some _›, rfl, rfl⟩

theorem extValue_canon (e : Exts) (id : Bytes) (cr : Bool) (v : Bytes) (e' : Exts) (hv : AllBytes v)
    (he : ExtsCanon e) (h : extValue e id cr v = some e') : ExtsCanon e' := by
  have keep : (e'.ip = e.ip ∧ e'.asn = e.asn) → ExtsCanon e' := by
    intro ⟨h1, h2⟩; unfold ExtsCanon; rw [h1, h2]; exact he
  revert h
  -- the nine readers that are not resource extensions write other fields of `e`
  fun_cases extValue e id cr v <;> intro h
  · revert h; fun_cases xBasicConstraints e cr v <;> (intro h; cases h <;> exact keep ⟨rfl, rfl⟩)
  · revert h; fun_cases xSubjectKeyId e cr v <;> (intro h; cases h <;> exact keep ⟨rfl, rfl⟩)
  · revert h; fun_cases xAuthorityKeyId e cr v <;> (intro h; cases h <;> exact keep ⟨rfl, rfl⟩)
  · revert h; fun_cases xKeyUsage e cr v <;> (intro h; cases h <;> exact keep ⟨rfl, rfl⟩)
  · revert h; fun_cases xExtKeyUsage e cr v <;> (intro h; cases h <;> exact keep ⟨rfl, rfl⟩)
  · revert h; fun_cases xCrlDistributionPoints e cr v <;> (intro h; cases h <;> exact keep ⟨rfl, rfl⟩)
  · revert h; fun_cases xAuthorityInfoAccess e cr v <;> (intro h; cases h <;> exact keep ⟨rfl, rfl⟩)
  · revert h; fun_cases xSubjectInfoAccess e cr v <;> (intro h; cases h <;> exact keep ⟨rfl, rfl⟩)
  · revert h; fun_cases xCertificatePolicies e cr v <;> (intro h; cases h <;> exact keep ⟨rfl, rfl⟩)
  · obtain ⟨f, hf, h1, h2⟩ := xIpResources_spec _ _ _ _ h
    refine ⟨fun f' hf' => ?_, h2 ▸ he.2⟩
    cases h1.symm.trans hf'
    exact takeIpFamilies_canon v hv f hf
  · obtain ⟨a, ha, h1, h2⟩ := xAsResources_spec _ _ _ _ h
    refine ⟨h2 ▸ he.1, ?_⟩
    rw [h1]
    rcases AsDer.decodeExt_sound v hv a ha with rfl | ⟨c, rfl, hc⟩
    · trivial
    · exact hc
  · cases h
  · cases h; exact he

theorem takeOid_subM (ber : Bool) (c o r : Bytes) (h : takeOidM ber c = some (o, r)) : r ⊆ c := by
  revert h
  fun_cases takeOidM ber c <;> intro h <;> try (cases h; done)
  cases h
  exact (Der.takePrim_subM ber _ _ _ _ ‹takePrimM _ _ c = some _›).2

theorem extension_canonM (ber : Bool) (e : Exts) (c : Bytes) (e' : Exts) (hc : AllBytes c) (he : ExtsCanon e)
    (h : extensionM ber e c = some e') : ExtsCanon e' := by
  revert h
  fun_cases extensionM ber e c <;> intro h <;> try cases h
  have b0 := allBytes_of_sub hc (takeOid_subM ber c _ _ ‹takeOidM _ c = some _›)
  -- criticality absent: the value follows the identifier at once; present: after the BOOLEAN
  -- `hcrit` is the model's `let crit := match …`, which `fun_cases` does not split; `zetaDelta` puts its value in
  have hcrit := ‹(_ : Option (Bool × Bytes)) = some _›
  dsimp +zetaDelta only at hcrit
  refine extValue_canon e _ _ _ e' (allBytes_of_sub ?_ (Der.takePrim_subM ber _ _ _ _ ‹takePrimM _ _ _ = some _›).1) he h
  split at hcrit
  · cases hcrit; exact b0
  · cases hcrit
  next hb => cases hcrit; exact allBytes_of_sub b0 (takeOptBool_subM ber _ _ _ hb)

theorem extension_canon (e : Exts) (c : Bytes) (e' : Exts) (hc : AllBytes c) (he : ExtsCanon e)
    (h : extension e c = some e') : ExtsCanon e' := by
  rw [← extensionM_false] at h
  exact extension_canonM false e c e' hc he h

theorem takeSigAlg_subM (ber : Bool) (b : Bytes) (p : Bool) (rest : Bytes) (h : takeSigAlgM ber b = some (p, rest)) :
    rest ⊆ b := by
  revert h
  fun_cases takeSigAlgM ber b <;> intro h <;> try (cases h; done)
  cases h
  exact (Der.takeCons_subM ber _ _ _ _ ‹takeConsM _ _ b = some _›).2

theorem takeName_subM (ber : Bool) (b n rest : Bytes) (h : takeNameM ber b = some (n, rest)) : rest ⊆ b := by
  revert h
  fun_cases takeNameM ber b <;> intro h <;> try (cases h; done)
  cases h
  exact (Der.takeCons_subM ber _ _ _ _ ‹takeConsM _ _ b = some _›).2

theorem takeValidityCivil_subM (ber : Bool) (b : Bytes) (t1 t2 : X509.Civil) (rest : Bytes)
    (h : takeValidityCivilM ber b = some (t1, t2, rest)) : rest ⊆ b := by
  revert h
  fun_cases takeValidityCivilM ber b <;> intro h <;> try (cases h; done)
  cases h
  exact (Der.takeCons_subM ber _ _ _ _ ‹takeConsM _ _ b = some _›).2

theorem takePublicKey_subM (ber : Bool) (b : Bytes) (a : KeyAlg) (u : Nat) (bits rest : Bytes)
    (h : takePublicKeyM ber b = some (a, u, bits, rest)) : rest ⊆ b := by
  revert h
  fun_cases takePublicKeyM ber b <;> intro h <;> try (cases h; done)
  all_goals
    cases h
    exact (Der.takeCons_subM ber _ _ _ _ ‹takeConsM _ _ b = some _›).2

theorem finishTbs_canon (serial : Bytes) (ip op : Bool) (issuer subject : Bytes) (nb na : X509.Civil)
    (ka : KeyAlg) (ku : Nat) (kb raw sig : Bytes) (e : Exts) (d : Decoded) (he : ExtsCanon e)
    (h : finishTbs serial ip op issuer subject nb na ka ku kb raw sig e = some d) :
    ClaimCanon IpDer.maxAddr d.v4 ∧ ClaimCanon IpDer.maxAddr d.v6 ∧ ClaimCanon AsDer.maxAs d.asn := by
  revert h
  fun_cases finishTbs serial ip op issuer subject nb na ka ku kb raw sig e <;> intro h <;> try (cases h; done)
  cases h
  have hf : FamCanon (e.ip.getD (none, none)) := by
    cases hip : e.ip with
    | none => exact ⟨trivial, trivial⟩
    | some f => exact he.1 f hip
  exact ⟨hf.1.getD, hf.2.getD, he.2.getD⟩

theorem decodeTbs_canonM (ber : Bool) (raw : Bytes) (op : Bool) (sig : Bytes) (d : Decoded) (hb : AllBytes raw)
    (h : decodeTbsM ber raw op sig = some d) :
    ClaimCanon IpDer.maxAddr d.v4 ∧ ClaimCanon IpDer.maxAddr d.v6 ∧ ClaimCanon AsDer.maxAs d.asn := by
  revert h
  fun_cases decodeTbsM ber raw op sig <;> intro h <;> try cases h
  -- the extensions are octets of `raw`: each field reader hands on a part of what it was given
  have b0 := allBytes_of_sub hb (Der.takeCons_subM ber _ _ _ _ ‹takeConsM _ _ raw = some _›).1
  have b1 := allBytes_of_sub b0 (Der.takeCons_subM ber _ _ _ _ ‹takeConsM _ 0xA0 _ = some _›).2
  have b2 := allBytes_of_sub b1 (Der.takePrim_subM ber _ _ _ _ ‹takePrimM _ tagInt _ = some _›).2
  have b3 := allBytes_of_sub b2 (takeSigAlg_subM ber _ _ _ ‹takeSigAlgM _ _ = some _›)
  have b4 := allBytes_of_sub b3 (takeName_subM ber _ _ _ ‹takeNameM _ _ = some _›)
  have b5 := allBytes_of_sub b4 (takeValidityCivil_subM ber _ _ _ _ ‹takeValidityCivilM _ _ = some _›)
  have b6 := allBytes_of_sub b5 (takeName_subM ber _ _ _ ‹takeNameM _ _ = some _›)
  have b7 := allBytes_of_sub b6 (takePublicKey_subM ber _ _ _ _ _ ‹takePublicKeyM _ _ = some _›)
  have b8 := allBytes_of_sub b7 (Der.takeCons_subM ber _ _ _ _ ‹takeConsM _ 0xA3 _ = some _›).1
  have b9 := allBytes_of_sub b8 (Der.takeCons_subM ber _ _ _ _ ‹takeConsM _ tagSeq _ = some (_, _)›).1
  exact finishTbs_canon _ _ _ _ _ _ _ _ _ _ _ _ _ d
    (foldCons_invM ber ExtsCanon tagSeq (extensionM ber) (extension_canonM ber) _ _ {} _ b9 extsCanon_default
      ‹foldConsM _ _ _ _ _ _ = some _›) h

theorem takeCert_canonM (ber : Bool) (b : Bytes) (d : Decoded) (rest : Bytes) (hb : AllBytes b) (h : takeCertM ber b = some (d, rest)) :
    ClaimCanon IpDer.maxAddr d.v4 ∧ ClaimCanon IpDer.maxAddr d.v6 ∧ ClaimCanon AsDer.maxAs d.asn := by
  revert h
  fun_cases takeCertM ber b <;> intro h <;> try cases h
  obtain ⟨d', hd, e⟩ := Option.map_eq_some_iff.1 h
  cases e
  have b0 := allBytes_of_sub hb (Der.takeCons_subM ber _ _ _ _ ‹takeConsM _ _ b = some _›).1
  revert hd
  fun_cases certBodyM ber _ <;> intro hd <;> try cases hd
  exact decodeTbs_canonM ber _ _ _ d (fun x hx => b0 x (List.mem_of_mem_take hx)) hd

theorem decodeCert_canonM (ber : Bool) (b : Bytes) (d : Decoded) (hb : AllBytes b) (h : (decodeCertM ber) b = some d) :
    ClaimCanon IpDer.maxAddr d.v4 ∧ ClaimCanon IpDer.maxAddr d.v6 ∧ ClaimCanon AsDer.maxAs d.asn := by
  obtain ⟨⟨d', rest⟩, ht, rfl⟩ := Option.map_eq_some_iff.1 h
  exact takeCert_canonM ber b d' rest hb ht

theorem decodeCert_canon (b : Bytes) (d : Decoded) (hb : AllBytes b) (h : decodeCert b = some d) :
    ClaimCanon IpDer.maxAddr d.v4 ∧ ClaimCanon IpDer.maxAddr d.v6 ∧ ClaimCanon AsDer.maxAs d.asn := by
  rw [← decodeCertM_false] at h
  exact decodeCert_canonM false b d hb h

theorem shiftV4_canon (cl : Claim) (h : ClaimCanon IpDer.maxAddr cl) : ClaimCanon (2 ^ 32 - 1) (shiftV4 cl) := by
  cases cl with
  | missing => trivial
  | inherit => trivial
  | blocks c =>
    refine fromIter_div_canon _ _ (by decide) c fun b hb => ⟨(h.1 b hb).1, ?_⟩
    have := (h.1 b hb).2
    simp only [IpDer.maxAddr] at this
    omega

end Rpki.CertDer

namespace Rpki.CertDer
open Rpki.Der

theorem takeOid_tlv (oid : Bytes) (ho : oidOk oid = true) : Reads takeOid (tlv tagOid oid) fun rest => some (oid, rest) :=
  .of fun rest => by
  unfold takeOid
  simp (disch := decide) only [takePrim_reads, ho, if_true]

theorem takeOptBool_true : Reads takeOptBool (tlv tagBool [255]) (.ok true) := .of fun rest => by
  unfold takeOptBool
  simp (disch := decide) only [takeOptPrim_reads]
  rfl

theorem takeOptBool_false : Reads takeOptBool (tlv tagBool [0]) (.ok false) := .of fun rest => by
  unfold takeOptBool
  simp (disch := decide) only [takeOptPrim_reads]
  rfl

theorem takeOptBool_octet (v : Bytes) : Reads takeOptBool (tlv tagOctetString v) fun _ => .absent := .of fun rest => by
  unfold takeOptBool
  simp (disch := decide) only [takeOptPrim_reads_other]

theorem takeOptNull_null : takeOptNull (tlv tagNull []) = some (true, []) := by decide

theorem takeBitString_enc (u : Nat) (bits : Bytes) (h : Manifest.bitStringTake (u :: bits) = some (u, bits)) :
    Reads takeBitString (tlv tagBitString (u :: bits)) fun rest => some (u, bits, rest) := .of fun rest => by
  unfold takeBitString
  simp (disch := decide) only [takePrim_reads, h, Option.map_some]

theorem takeBitString_sig (sig : Bytes) :
    Reads takeBitString (tlv tagBitString (0 :: sig)) fun rest => some (0, sig, rest) :=
  takeBitString_enc 0 sig (Manifest.bitStringTake_zero sig)

end Rpki.CertDer
