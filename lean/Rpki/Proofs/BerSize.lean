/-
  What a reader hands on is at least two octets shorter than what it was given (`Hands.size`), so every loop over the
  values of a content ends before its fuel does: the model's fuel argument, which the implementation does not have,
  never decides a verdict.  Here the general theorem, the readers' own loops and the two generic passes over items, free
  of the codec modules (and of Mathlib, which they bring); the item readers' loops are in `Proofs/FuelFree.lean`.
-/
import Rpki.Proofs.BerSub
import Rpki.Gen.BerModel
namespace Rpki.Der

/-- `step` is the loop's own equation, read with "same on everything shorter" for the inner call. -/
theorem fuel_irrelevant {β : Type} (F : Nat → Bytes → β) (nil : ∀ k, F (k + 1) [] = F 0 [])
    (step : ∀ k1 k2 b, (∀ b' : Bytes, b'.length < b.length → F k1 b' = F k2 b') →
      F (k1 + 1) b = F (k2 + 1) b) :
    ∀ k1 k2 b, b.length ≤ k1 → b.length ≤ k2 → F k1 b = F k2 b := by
  intro k1
  induction k1 with
  | zero =>
    intro k2 b h1 _
    obtain rfl := List.eq_nil_of_length_eq_zero (Nat.le_zero.1 h1)
    cases k2 with
    | zero => rfl
    | succ m => exact (nil m).symm
  | succ m ih =>
    intro k2 b h1 h2
    cases k2 with
    | zero =>
      obtain rfl := List.eq_nil_of_length_eq_zero (Nat.le_zero.1 h2)
      exact nil m
    | succ m2 =>
      exact step m m2 b fun b' hb' =>
        ih m2 b' (Nat.le_of_lt_succ (Nat.lt_of_lt_of_le hb' h1)) (Nat.le_of_lt_succ (Nat.lt_of_lt_of_le hb' h2))

/-- The same for a loop that starts with `length + 1` and whose counter `0` refuses: nothing is asked about `F 0`. -/
theorem fuel_irrelevant_lt {β : Type} (F : Nat → Bytes → β)
    (step : ∀ k1 k2 b, (∀ b' : Bytes, b'.length < b.length → F k1 b' = F k2 b') →
      F (k1 + 1) b = F (k2 + 1) b) :
    ∀ k1 k2 b, b.length < k1 → b.length < k2 → F k1 b = F k2 b
  | 0, _, _, h, _ => absurd h (Nat.not_lt_zero _)
  | _, 0, _, _, h => absurd h (Nat.not_lt_zero _)
  | k1 + 1, k2 + 1, b, h1, h2 =>
    fuel_irrelevant (fun k => F (k + 1)) (fun k => step (k + 1) 0 [] fun _ h => absurd h (Nat.not_lt_zero _))
      (fun k1 k2 b => step (k1 + 1) (k2 + 1) b) k1 k2 b (Nat.le_of_lt_succ h1) (Nat.le_of_lt_succ h2)

/-- an item reader that hands on less than it was given, and reports an empty input as "no item" -/
def Shrinks {α : Type} (take : Bytes → Take α) : Prop :=
  take [] = .absent ∧ ∀ b a rest, take b = .ok a rest → rest.length < b.length

theorem capturePass_fuel {α : Type} (take : Bytes → Take α) (check : α → Bool) (hs : Shrinks take) :
    ∀ (k1 k2 : Nat) (b : Bytes) (n : Nat), b.length ≤ k1 → b.length ≤ k2 →
      capturePass take check k1 b n = capturePass take check k2 b n := by
  intro k1 k2 b n h1 h2
  refine congrFun (fuel_irrelevant (capturePass take check) ?_ ?_ k1 k2 b h1 h2) n
  · intro k
    funext n
    simp only [capturePass, hs.1]
  · intro k1 k2 b ih
    funext n
    unfold capturePass
    cases ht : take b with
    | absent => rfl
    | bad => rfl
    | ok a rest => simp only [ih rest (hs.2 b a rest ht)]

theorem iteratePass_fuel {α : Type} (take : Bytes → Take α) (hs : Shrinks take) :
    ∀ (k1 k2 : Nat) (b : Bytes), b.length ≤ k1 → b.length ≤ k2 →
      iteratePass take k1 b = iteratePass take k2 b := by
  refine fuel_irrelevant (iteratePass take) ?_ ?_
  · intro k
    simp only [iteratePass, hs.1]
  · intro k1 k2 b ih
    unfold iteratePass
    cases ht : take b with
    | absent => rfl
    | bad => rfl
    | ok a rest => simp only [ih rest (hs.2 b a rest ht)]

end Rpki.Der

namespace Rpki.CertDer
open Rpki.Der

theorem foldConsM_fuel (ber : Bool) {σ : Type} (tag : Nat) (f : σ → Bytes → Option σ) :
    ∀ (k1 k2 : Nat) (b : Bytes) (s : σ), b.length < k1 → b.length < k2 →
      foldConsM ber tag f k1 b s = foldConsM ber tag f k2 b s := by
  intro k1 k2 b s h1 h2
  refine congrFun (fuel_irrelevant_lt (foldConsM ber tag f) ?_ k1 k2 b h1 h2) s
  intro k1 k2 b ih
  funext s
  unfold foldConsM
  cases ht : takeOptConsM ber tag b with
  | absent => rfl
  | bad => rfl
  | ok c rest =>
    have := (takeOptConsM_hands ber tag b c rest ht).size
    simp only [ih rest (by omega)]

theorem foldPrimM_fuel (ber : Bool) {σ : Type} (tag : Nat) (f : σ → Bytes → Option σ) :
    ∀ (k1 k2 : Nat) (b : Bytes) (s : σ), b.length < k1 → b.length < k2 →
      foldPrimM ber tag f k1 b s = foldPrimM ber tag f k2 b s := by
  intro k1 k2 b s h1 h2
  refine congrFun (fuel_irrelevant_lt (foldPrimM ber tag f) ?_ k1 k2 b h1 h2) s
  intro k1 k2 b ih
  funext s
  unfold foldPrimM
  cases ht : takeOptPrimM ber tag b with
  | absent => rfl
  | bad => rfl
  | ok c rest =>
    have := (takeOptPrimM_hands ber tag b c rest ht).size
    simp only [ih rest (by omega)]

theorem indefBodyM_fuel (ber : Bool) : ∀ (k1 k2 : Nat) (cur : Bytes), cur.length < k1 → cur.length < k2 →
    indefBodyM ber k1 cur = indefBodyM ber k2 cur := by
  refine fuel_irrelevant_lt (indefBodyM ber) ?_
  intro k1 k2 cur ih
  unfold indefBodyM
  split
  · rfl
  · rfl
  · cases hs : skipOneM ber cur with
    | none => rfl
    | some rest' =>
      have := (skipOne_suffixM ber cur rest' hs).2
      simp only [ih rest' (by omega)]

theorem _root_.Rpki.Der.octetLeavesM_fuel (ber : Bool) : ∀ (k1 k2 : Nat) (b : Bytes), b.length ≤ k1 → b.length ≤ k2 →
    octetLeavesM ber k1 b = octetLeavesM ber k2 b := by
  refine fuel_irrelevant (octetLeavesM ber) (fun _ => rfl) ?_
  intro k1 k2 b ih
  unfold octetLeavesM
  split
  · rfl
  next t0 r =>
    cases hr : readTlvM ber (t0 :: r) with
    | none => rfl
    | some q =>
      obtain ⟨t1, c1, r1⟩ := q
      have hs := (readTlvM_hands ber _ _ _ _ hr).size
      simp only [ih c1 (by omega), ih r1 (by omega)]

theorem skipAllM_fuel (ber : Bool) : ∀ (k1 k2 : Nat) (b : Bytes), b.length ≤ k1 → b.length ≤ k2 →
    skipAllM ber k1 b = skipAllM ber k2 b := by
  refine fuel_irrelevant (skipAllM ber) (fun _ => by simp [skipAllM]) ?_
  intro k1 k2 b ih
  unfold skipAllM
  cases hs : skipOneM ber b with
  | none => rfl
  | some rest =>
    have := (skipOne_suffixM ber b rest hs).2
    simp only [ih rest (by omega)]

end Rpki.CertDer
