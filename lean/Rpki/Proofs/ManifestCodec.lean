/-
  Manifest content codec: `ManifestContent::take_from` reads back whatever `ManifestContent::encode_ref` writes
  (fields, entry count, captured file list, iterator), and encoding the decoded value again gives the same octets.
  Also `Time::take_from` on both forms of a written time (`takeTime_genTime`, `takeTime_encodeVaried`), which the CRL
  and certificate writers use.
-/
import Rpki.Proofs.ManifestLemmas
import Rpki.Proofs.SigObjAttrs
import Rpki.Proofs.X509Serial  -- the other codecs take X509Serial, and with it how `2 ^ k` elaborates, through this module
namespace Rpki.Manifest
open Rpki.Der

theorem bitStringTake_zero (h : Bytes) : bitStringTake (0 :: h) = some (0, h) := by
  simp [bitStringTake]

/-- what the round trip asks of an entry, under the name the other codecs use (`Crl.EntryOk`): a legal file name -/
def EntryOk (e : Entry) : Prop := validName e.name = true

theorem takeIa5_tlv (c : Bytes) (ha : c.all (· < 128) = true) :
    Reads takeIa5 (tlv tagIa5 c) fun rest => some (c, rest) := .of fun rest => by
  unfold takeIa5
  simp (disch := decide) only [takePrim_reads, ha, if_true]

theorem takeEntryBody_encode (e : Entry) (hv : EntryOk e) :
    takeEntryBody (tlv tagIa5 e.name ++ tlv tagBitString (0 :: e.hash)) = some e := by
  have hv' : validName e.name = true := hv
  unfold takeEntryBody
  simp (disch := decide) only [takeIa5_tlv _ (validName_ascii hv), takePrim_reads, hv', bitStringTake_zero, if_true,
    Bool.not_true, Bool.false_eq_true, if_false]

theorem takeOptEntry_encode (e : Entry) (hv : EntryOk e) : Reads takeOptEntry (encodeEntry e) (.ok e) :=
  .of fun rest => by
  unfold takeOptEntry encodeEntry
  simp (disch := decide) only [takeOptCons_reads, takeEntryBody_encode e hv]

theorem skipOptEntry_encode (e : Entry) (hv : EntryOk e) : Reads skipOptEntry (encodeEntry e) (.ok ()) :=
  .of fun rest => ((skip_take_parity _).2.2 rest).2 ⟨e, (takeOptEntry_encode e hv).1 rest, hv⟩

theorem takeOptEntry_nil : takeOptEntry [] = .absent := rfl
theorem skipOptEntry_nil : skipOptEntry [] = .absent := rfl
theorem encodeFileList_nil : encodeFileList [] = [] := rfl


theorem length_le_encodeFileList (es : List Entry) : es.length ≤ (encodeFileList es).length :=
  length_le_flatten_map _ (fun _ => List.cons_ne_nil _ _) es

theorem countLoop_encode (es : List Entry) (hes : ∀ e ∈ es, EntryOk e) :
    countLoop (encodeFileList es).length (encodeFileList es) 0 = some es.length := by
  rw [countLoop_eq, ← Nat.zero_add es.length]
  exact capturePass_flatten skipOptEntry _ encodeEntry skipOptEntry_nil es _ 0 (length_le_encodeFileList es)
    (fun e he => ⟨(), (skipOptEntry_encode e (hes e he)).1, rfl⟩)

theorem iterLoop_encode (es : List Entry) (hes : ∀ e ∈ es, EntryOk e) :
    iterLoop (encodeFileList es).length (encodeFileList es) = some es := by
  rw [iterLoop_eq]
  exact iteratePass_flatten takeOptEntry encodeEntry takeOptEntry_nil es _ (length_le_encodeFileList es)
    (fun e he => (takeOptEntry_encode e (hes e he)).1)

theorem decodeTime_genTime (c : X509.Civil) (hv : X509.validCivil c = true) (hy : c.y ≤ 9999) :
    X509.decodeTime .generalized (genTime c) = some c := by
  unfold X509.decodeTime X509.decodeTimeWith genTime
  simp only [List.append_assoc]
  rw [X509.readChars_pad4 _ _ (by omega)]
  simp only
  have := X509.readRest_render c hv
  simp only [List.append_assoc] at this
  exact this

theorem takeTime_genTime (c : X509.Civil) (hv : X509.validCivil c = true) (hy : c.y ≤ 9999) :
    Reads takeTime (tlv tagGenTime (genTime c)) fun rest => some (c, rest) := .of fun rest => by
  unfold takeTime
  simp (disch := decide) only [takeOptPrim_reads_other, takeOptPrim_reads, decodeTime_genTime c hv hy, Option.map_some]

theorem takeTime_encodeVaried (c : X509.Civil) (hv : X509.validCivil c = true) (hy : c.y ≤ 9999) :
    Reads takeTime (tlv (SigObj.timeOctet (X509.encodeVaried c).1) (X509.encodeVaried c).2) fun rest => some (c, rest) :=
  .of fun rest => by
  have hrt : X509.decodeTime (X509.encodeVaried c).1 (X509.encodeVaried c).2 = some c :=
    X509.time_roundtrip_with _ rfl c hv hy
  unfold takeTime SigObj.timeOctet
  cases ht : (X509.encodeVaried c).1 <;> rw [ht] at hrt <;>
    simp (disch := decide) only [takeOptPrim_reads, takeOptPrim_reads_other, hrt, Option.map_some]

theorem decodeFields_encode (number : Bytes) (tu nu : X509.Civil) (es : List Entry)
    (hn : X509.VS number) (htu : X509.validCivil tu = true ∧ tu.y ≤ 9999) (hnu : X509.validCivil nu = true ∧ nu.y ≤ 9999)
    (hord : civilKey tu ≤ civilKey nu) (hes : ∀ e ∈ es, EntryOk e) :
    decodeFields (tlv tagInt (X509.encodeContent number) ++ (tlv tagGenTime (genTime tu) ++
      (tlv tagGenTime (genTime nu) ++ (tlv tagOid sha256Oid ++ tlv tagSeq (encodeFileList es)))))
      = some ⟨number, tu, nu, encodeFileList es, es.length⟩ := by
  unfold decodeFields
  simp (disch := decide) only [takePrim_reads, (X509.der_roundtrip' number hn).1, takeTime_genTime _ htu.1 htu.2,
    takeTime_genTime _ hnu.1 hnu.2, Nat.not_lt.2 hord, takeCons_reads, countLoop_encode es hes, ne_eq,
    not_true_eq_false, if_false]

theorem takeVersion_int (c rest : Bytes) : takeVersion (tlv tagInt c ++ rest) = some (tlv tagInt c ++ rest) := by
  unfold takeVersion
  rw [(takeOptCons_reads_other 0xA0 tagInt c).1 rest]

theorem decodeContent_encodeContent (number : Bytes) (tu nu : X509.Civil) (es : List Entry)
    (hn : X509.VS number) (htu : X509.validCivil tu = true ∧ tu.y ≤ 9999) (hnu : X509.validCivil nu = true ∧ nu.y ≤ 9999)
    (hord : civilKey tu ≤ civilKey nu) (hes : ∀ e ∈ es, EntryOk e) :
    decodeContent (encodeContent number tu nu es) = some ⟨number, tu, nu, encodeFileList es, es.length⟩ := by
  unfold decodeContent encodeContent
  simp (disch := decide) only [takeCons_reads, List.append_assoc, takeVersion_int,
    decodeFields_encode number tu nu es hn htu hnu hord hes]

theorem decode_encode (number : Bytes) (tu nu : X509.Civil) (es : List Entry)
    (hn : X509.VS number)
    (htu : X509.validCivil tu = true) (hnu : X509.validCivil nu = true)
    (hy1 : tu.y ≤ 9999) (hy2 : nu.y ≤ 9999)
    (hord : civilKey tu ≤ civilKey nu)
    (hes : ∀ e ∈ es, EntryOk e)
    (hsize : (encodeFileList es).length < 2 ^ 31) :
    ∃ m, decodeContent (encodeContent number tu nu es) = some m ∧
      m.number = number ∧ m.thisUpdate = tu ∧ m.nextUpdate = nu ∧ m.len = es.length ∧
      m.fileList = encodeFileList es ∧ m.iter = some es :=
  ⟨_, decodeContent_encodeContent number tu nu es hn ⟨htu, hy1⟩ ⟨hnu, hy2⟩ hord hes, rfl, rfl, rfl, rfl, rfl,
    iterLoop_encode es hes⟩

theorem reencode (number : Bytes) (tu nu : X509.Civil) (es : List Entry)
    (hn : X509.VS number)
    (htu : X509.validCivil tu = true) (hnu : X509.validCivil nu = true)
    (hy1 : tu.y ≤ 9999) (hy2 : nu.y ≤ 9999)
    (hord : civilKey tu ≤ civilKey nu)
    (hes : ∀ e ∈ es, EntryOk e)
    (hsize : (encodeFileList es).length < 2 ^ 31) :
    ∀ m es', decodeContent (encodeContent number tu nu es) = some m → m.iter = some es' →
      encodeContent m.number m.thisUpdate m.nextUpdate es' = encodeContent number tu nu es := by
  intro m es' hm hi
  cases (decodeContent_encodeContent number tu nu es hn ⟨htu, hy1⟩ ⟨hnu, hy2⟩ hord hes).symm.trans hm
  cases (iterLoop_encode es hes).symm.trans hi
  rfl


example : ∃ (number : Bytes) (tu nu : X509.Civil) (es : List Entry),
    X509.VS number ∧ X509.validCivil tu = true ∧ X509.validCivil nu = true ∧ tu.y ≤ 9999 ∧ nu.y ≤ 9999 ∧
    civilKey tu ≤ civilKey nu ∧ (∀ e ∈ es, EntryOk e) ∧ (encodeFileList es).length < 2 ^ 31 ∧ es ≠ [] := by
  refine ⟨List.replicate 19 0 ++ [128], ⟨2024, 2, 29, 23, 59, 59⟩, ⟨2024, 3, 1, 0, 0, 0⟩,
    [⟨[97, 46, 99, 101, 114], [1, 2, 255]⟩, ⟨[98, 45, 95, 46, 114, 111, 97], []⟩],
    ⟨by decide, ?_, by decide⟩, by decide, by decide, by decide, by decide, by decide, ?_, by decide, by decide⟩
  · exact fun x hx => (List.mem_append.1 hx).elim (fun h => List.eq_of_mem_replicate h ▸ by decide)
      (fun h => List.mem_singleton.1 h ▸ by decide)
  · intro e he; simp at he; rcases he with h | h <;> subst h <;> (show validName _ = true) <;> decide

end Rpki.Manifest
