/-
  ROA and ASPA eContent DER codecs: the u8 INTEGER content, one ROA address, the captured address list (counting
  pass and iterator), the whole ROA content, and the ASPA content with its provider set — round trips, and the inversions
  (`decodeContent_inv`, `famLoop_inv`, `provLoop_parity`) behind the soundness theorems of `Props/C05`.
-/
import Rpki.Model.Roa
import Rpki.Proofs.IpDerCodec
namespace Rpki.Roa
open Rpki.Der

/-- what `RoaIpAddress` holds by construction: a prefix of at most 128 bits with no bit set beyond its length, and a
`u8` for the maximum length; the round trip does not use the last conjunct (octets are naturals in the model) -/
def Addr.WF (a : Addr) : Prop :=
  a.len ≤ 128 ∧ a.addr < 2 ^ 128 ∧ IpDer.toMin a.addr a.len = a.addr ∧ ∀ m, a.maxLen = some m → m < 256

theorem decodeU8_encodeU8 (v : Nat) : decodeU8 (encodeU8 v) = some v := by
  unfold encodeU8
  by_cases c : v > 127
  · rw [if_pos c]; exact if_pos ⟨rfl, c⟩
  · rw [if_neg c]; exact if_pos (Nat.lt_of_not_le c)

theorem decodeU8_lt (c : Bytes) (hc : AllBytes c) (v : Nat) (h : decodeU8 c = some v) : v < 256 := by
  revert h
  fun_cases decodeU8 c <;> intro h <;> cases h
  · omega
  · exact hc _ (List.mem_cons_of_mem _ (List.mem_cons_self ..))

theorem takeMaxLen_nil : takeMaxLen [] = some none := rfl

theorem takeMaxLen_some (m : Nat) : takeMaxLen (tlv tagInt (encodeU8 m)) = some (some m) := by
  unfold takeMaxLen
  simp (disch := decide) only [takeOptPrim_reads, decodeU8_encodeU8 m, if_true]

theorem takeOptAddr_encodeAddr (a : Addr) (ha : a.WF) : Reads takeOptAddr (encodeAddr a) (.ok a) := .of fun rest => by
  obtain ⟨hlen, hlt, hmin, _⟩ := ha
  obtain ⟨addr, len, ml⟩ := a
  have hp := IpDer.prefixOfContent_encode addr len hlen hlt hmin
  unfold encodeAddr takeOptAddr
  cases ml with
  | none => simp (disch := decide) only [takeOptCons_reads, List.append_nil, takePrim_reads, hp, takeMaxLen_nil]
  | some m => simp (disch := decide) only [takeOptCons_reads, takePrim_reads, hp, takeMaxLen_some m]

theorem takeOptAddr_nil : takeOptAddr [] = .absent := rfl

theorem encodeAddrs_nil : encodeAddrs [] = [] := rfl

theorem length_le_encodeAddrs (as : List Addr) : as.length ≤ (encodeAddrs as).length :=
  length_le_flatten_map _ (fun _ => List.cons_ne_nil _ _) as

theorem encodeAddrs_ne_nil (as : List Addr) (h : as ≠ []) : encodeAddrs as ≠ [] := by
  cases as with
  | nil => exact absurd rfl h
  | cons a as => exact List.cons_ne_nil _ _

theorem capturePass_encodeAddrs (W : Nat) (as : List Addr) (h : ∀ a ∈ as, a.WF ∧ addrOk W a = true) (n : Nat) :
    capturePass takeOptAddr (addrOk W) (encodeAddrs as).length (encodeAddrs as) n = some (n + as.length) :=
  capturePass_flatten takeOptAddr _ encodeAddr takeOptAddr_nil as _ n (length_le_encodeAddrs as)
    (fun a ha => ⟨a, (takeOptAddr_encodeAddr a (h a ha).1).1, (h a ha).2⟩)

theorem iter_encodeAddrs (as : List Addr) (hwf : ∀ a ∈ as, a.WF) : iter (encodeAddrs as) = some as :=
  iteratePass_flatten takeOptAddr encodeAddr takeOptAddr_nil as _ (length_le_encodeAddrs as)
    (fun a ha => (takeOptAddr_encodeAddr a (hwf a ha)).1)

theorem takeFamily_v4 : Reads takeFamily (tlv tagOctetString [0, 1]) fun rest => some (32, rest) := .of fun rest => by
  unfold takeFamily
  simp (disch := decide) only [takePrim_reads, if_true]

theorem takeFamily_v6 : Reads takeFamily (tlv tagOctetString [0, 2]) fun rest => some (128, rest) := .of fun rest => by
  have e : ¬ ([0, 2] : Bytes) = [0, 1] := by decide
  unfold takeFamily
  simp (disch := decide) only [takePrim_reads, e, if_false, if_true]

theorem takeAddrs_encode (W : Nat) (as : List Addr) (h : ∀ a ∈ as, a.WF ∧ addrOk W a = true) :
    Reads (takeAddrs W) (tlv tagSeq (encodeAddrs as)) fun rest => some (encodeAddrs as, rest) := .of fun rest => by
  unfold takeAddrs
  simp (disch := decide) only [takeCons_reads, capturePass_encodeAddrs W as h 0]

theorem famLoop_nil (fuel : Nat) (v4 v6 : Option Bytes) : famLoop fuel [] v4 v6 = some (v4, v6) := by
  cases fuel <;> rfl

theorem famLoop_v4 (fuel : Nat) (as : List Addr) (h : ∀ a ∈ as, a.WF ∧ addrOk 32 a = true) (rest : Bytes)
    (v6 : Option Bytes) :
    famLoop (fuel + 1) (tlv tagSeq (tlv tagOctetString [0, 1] ++ tlv tagSeq (encodeAddrs as)) ++ rest)
      none v6 = famLoop fuel rest (some (encodeAddrs as)) v6 := by
  rw [famLoop]
  simp (disch := decide) only [takeOptCons_reads, takeFamily_v4, if_true, takeAddrs_encode 32 as h, Option.isSome_none,
    Bool.false_eq_true, if_false]

theorem famLoop_v6 (fuel : Nat) (as : List Addr) (h : ∀ a ∈ as, a.WF ∧ addrOk 128 a = true) (rest : Bytes)
    (v4 : Option Bytes) :
    famLoop (fuel + 1) (tlv tagSeq (tlv tagOctetString [0, 2] ++ tlv tagSeq (encodeAddrs as)) ++ rest)
      v4 none = famLoop fuel rest v4 (some (encodeAddrs as)) := by
  have e : ¬ (128 : Nat) = 32 := by decide
  rw [famLoop]
  simp (disch := decide) only [takeOptCons_reads, takeFamily_v6, e, if_true, takeAddrs_encode 128 as h,
    Option.isSome_none, Bool.false_eq_true, if_false]

theorem encodeFamily_ne (fam cap : Bytes) (h : cap ≠ []) :
    encodeFamily fam cap = tlv tagSeq (tlv tagOctetString fam ++ tlv tagSeq cap) := if_neg h

theorem famLoop_encode (a4 a6 : List Addr)
    (h4 : ∀ a ∈ a4, a.WF ∧ addrOk 32 a = true) (h6 : ∀ a ∈ a6, a.WF ∧ addrOk 128 a = true) :
    ∃ v4 v6,
      famLoop (encodeFamily [0, 1] (encodeAddrs a4) ++ encodeFamily [0, 2] (encodeAddrs a6)).length
        (encodeFamily [0, 1] (encodeAddrs a4) ++ encodeFamily [0, 2] (encodeAddrs a6)) none none
        = some (v4, v6) ∧ v4.getD [] = encodeAddrs a4 ∧ v6.getD [] = encodeAddrs a6 := by
  -- a loop that has something to read has fuel for two turns: every family is at least two octets
  have hfuel : ∀ (t : Nat) (c r : Bytes), ∃ f, (tlv t c ++ r).length = f + 2 :=
    fun t c r => ⟨(tlv t c ++ r).length - 2, by rw [List.length_append]; have := (tlv_length t c).1; omega⟩
  by_cases e4 : a4 = []
  · by_cases e6 : a6 = []
    · subst e4 e6
      exact ⟨none, none, rfl, rfl, rfl⟩
    · subst e4
      rw [encodeAddrs_nil, encodeFamily, if_pos rfl, List.nil_append, encodeFamily_ne _ _ (encodeAddrs_ne_nil a6 e6),
        ← List.append_nil (tlv _ _)]
      obtain ⟨f, hf⟩ := hfuel tagSeq (tlv tagOctetString [0, 2] ++ tlv tagSeq (encodeAddrs a6)) []
      rw [hf, famLoop_v6 (f + 1) a6 h6, famLoop_nil]
      exact ⟨none, _, rfl, rfl, rfl⟩
  · rw [encodeFamily_ne _ _ (encodeAddrs_ne_nil a4 e4)]
    obtain ⟨f, hf⟩ := hfuel tagSeq (tlv tagOctetString [0, 1] ++ tlv tagSeq (encodeAddrs a4))
      (encodeFamily [0, 2] (encodeAddrs a6))
    rw [hf, famLoop_v4 (f + 1) a4 h4]
    by_cases e6 : a6 = []
    · subst e6
      rw [encodeAddrs_nil, encodeFamily, if_pos rfl, famLoop_nil]
      exact ⟨_, none, rfl, rfl, rfl⟩
    · rw [encodeFamily_ne _ _ (encodeAddrs_ne_nil a6 e6), ← List.append_nil (tlv _ _), famLoop_v6 f a6 h6, famLoop_nil]
      exact ⟨_, _, rfl, rfl, rfl⟩

theorem takeOptVersion_absent (expected : Nat) (x rest : Bytes) :
    takeOptVersion expected (tlv tagInt x ++ rest) = some (tlv tagInt x ++ rest) := by
  unfold takeOptVersion
  rw [(takeOptCons_reads_other 0xA0 tagInt x).1 rest]

/-- `RouteOriginAttestation::take_from` on what `RouteOriginAttestation::encode_ref` writes: an empty family is
omitted and read back as empty; data after the value is ignored -/
theorem decodeContent_encodeContent (asId : Nat) (h : asId < 2 ^ 32) (a4 a6 : List Addr)
    (h4 : ∀ a ∈ a4, a.WF ∧ addrOk 32 a = true) (h6 : ∀ a ∈ a6, a.WF ∧ addrOk 128 a = true)
    (trailing : Bytes) :
    decodeContent (encodeContent ⟨asId, encodeAddrs a4, encodeAddrs a6⟩ ++ trailing)
      = some ⟨asId, encodeAddrs a4, encodeAddrs a6⟩ := by
  obtain ⟨v4, v6, hfam, g4, g6⟩ := famLoop_encode a4 a6 h4 h6
  unfold encodeContent decodeContent
  simp (disch := decide) only [takeCons_reads, takeOptVersion_absent, takePrim_reads, AsDer.decodeU32_encodeU32 asId h,
    ne_eq, not_true_eq_false, if_false, hfam, g4, g6]

/-- the invariant of `famLoop`: a captured list it has stored passed the counting pass of its family -/
def CapOk (W : Nat) (v : Option Bytes) : Prop :=
  ∀ cap, v = some cap → ∃ k, capturePass takeOptAddr (addrOk W) cap.length cap 0 = some k

theorem capOk_none (W : Nat) : CapOk W none := by
  intro cap h; cases h

theorem takeAddrs_ok (W : Nat) (b cap r : Bytes) (h : takeAddrs W b = some (cap, r)) :
    CapOk W (some cap) := by
  revert h
  fun_cases takeAddrs W b <;> intro h <;> cases h
  intro cap hc
  cases hc
  exact ⟨_, ‹_›⟩

theorem famLoop_inv (fuel : Nat) (b : Bytes) (v4 v6 r4 r6 : Option Bytes)
    (h : famLoop fuel b v4 v6 = some (r4, r6)) (i4 : CapOk 32 v4) (i6 : CapOk 128 v6) : CapOk 32 r4 ∧ CapOk 128 r6 := by
  fun_induction famLoop fuel b v4 v6 <;> try (cases h; done)
  · cases h; exact ⟨i4, i6⟩
  · cases h; exact ⟨i4, i6⟩
  · rename_i ih; exact ih h (takeAddrs_ok 32 _ _ _ ‹_›) i6
  · rename_i ih; exact ih h i4 (takeAddrs_ok 128 _ _ _ ‹_›)

theorem capOk_iter (W : Nat) (v : Option Bytes) (h : CapOk W v) :
    ∃ l, iter (v.getD []) = some l ∧ ∀ a ∈ l, addrOk W a = true := by
  cases v with
  | none => exact ⟨[], rfl, by simp⟩
  | some cap =>
    obtain ⟨k, hk⟩ := h cap rfl
    obtain ⟨items, h1, _, h3⟩ :=
      Der.capture_iterate_parity takeOptAddr (addrOk W) cap.length cap 0 k hk
    exact ⟨items, h1, h3⟩

theorem decodeContent_inv (b : Bytes) (ct : Content) (h : decodeContent b = some ct) :
    ∃ c r c1 ac c2 fc v4 v6, takeCons tagSeq b = some (c, r) ∧ takeOptVersion 0 c = some c1 ∧
      takePrim tagInt c1 = some (ac, c2) ∧ AsDer.decodeU32 ac = some ct.asId ∧
      takeCons tagSeq c2 = some (fc, []) ∧ famLoop fc.length fc none none = some (v4, v6) ∧
      ct.v4 = v4.getD [] ∧ ct.v6 = v6.getD [] := by
  revert h
  fun_cases decodeContent b <;> intro h <;> cases h
  cases Decidable.of_not_not ‹¬ _ ≠ []›
  exact ⟨_, _, _, _, _, _, _, _, ‹_›, ‹_›, ‹_›, ‹_›, ‹_›, ‹_›, rfl, rfl⟩

theorem takeOptVersion_sub (expected : Nat) (c c1 : Bytes) (h : takeOptVersion expected c = some c1) :
    ∀ x ∈ c1, x ∈ c := by
  revert h
  fun_cases takeOptVersion expected c <;> intro h <;> cases h
  · exact fun x hx => hx
  · exact (Der.takeOptCons_sub _ _ _ _ ‹_›).2

theorem decodeContent_asId (b : Bytes) (hb : AllBytes b) (c : Content) (h : decodeContent b = some c) :
    c.asId < 2 ^ 32 := by
  obtain ⟨c0, _, c1, ac, _, _, _, _, h1, h2, h3, h4, _⟩ := decodeContent_inv b c h
  obtain ⟨s1, _⟩ := Der.takeCons_sub _ _ _ _ h1
  have s2 := takeOptVersion_sub 0 c0 c1 h2
  obtain ⟨s3, _⟩ := Der.takePrim_sub _ _ _ _ h3
  exact AsDer.decodeU32_lt ac c.asId (fun x hx => hb x (s1 x (s2 x (s3 x hx)))) h4

/-- strictly increasing, in the adjacent form `provLoop` tests item by item (`AsnSet.StrictSorted` is the pairwise form) -/
def StrictInc : List Nat → Prop
  | a :: b :: rest => a < b ∧ StrictInc (b :: rest)
  | _ => True

theorem strictInc_cons2 (a b : Nat) (rest : List Nat) :
    StrictInc (a :: b :: rest) ↔ a < b ∧ StrictInc (b :: rest) := Iff.rfl

theorem strictInc_single (a : Nat) : StrictInc [a] := trivial

theorem strictInc_nil : StrictInc [] := trivial

theorem strictInc_toList_cons (last : Option Nat) (a : Nat) (l : List Nat) :
    StrictInc (last.toList ++ a :: l) ↔ (∀ x, last = some x → x < a) ∧ StrictInc (a :: l) := by
  cases last with
  | none => exact ⟨fun h => ⟨fun _ e => (nomatch e), h⟩, fun h => h.2⟩
  | some x =>
    exact (strictInc_cons2 x a l).trans ⟨fun h => ⟨fun y e => by cases e; exact h.1, h.2⟩, fun h => ⟨h.1 x rfl, h.2⟩⟩

theorem strictInc_toList (last : Option Nat) : StrictInc last.toList := by
  cases last
  · exact strictInc_nil
  · exact strictInc_single _

theorem takeOptAsn_encode (p : Nat) (hp : p < 2 ^ 32) : Reads takeOptAsn (tlv tagInt (AsDer.encodeU32 p)) (.ok p) :=
  .of fun rest => by
  unfold takeOptAsn
  simp (disch := decide) only [takeOptPrim_reads, AsDer.decodeU32_encodeU32 p hp]

theorem takeOptAsn_nil : takeOptAsn [] = .absent := rfl

theorem encodeProviders_nil : encodeProviders [] = [] := rfl

theorem encodeProviders_cons (p : Nat) (ps : List Nat) :
    encodeProviders (p :: ps) = tlv tagInt (AsDer.encodeU32 p) ++ encodeProviders ps := rfl

theorem length_le_encodeProviders (ps : List Nat) : ps.length ≤ (encodeProviders ps).length :=
  length_le_flatten_map _ (fun _ => List.cons_ne_nil _ _) ps

theorem iterProviders_encode (ps : List Nat) (hps : ∀ p ∈ ps, p < 2 ^ 32) :
    iterProviders (encodeProviders ps) = some ps :=
  iteratePass_flatten takeOptAsn _ takeOptAsn_nil ps _ (length_le_encodeProviders ps)
    (fun p hp => (takeOptAsn_encode p (hps p hp)).1)

/-- `last` is the loop's state: `StrictInc (last.toList ++ ps)` carries "`last` is below the first provider", and
`last.isSome ∨ ps ≠ []` that the loop has read an item by the time it ends -/
theorem provLoop_encode (maxLen cust : Nat) : ∀ (ps : List Nat) (fuel : Nat) (last : Option Nat) (n : Nat),
    ps.length ≤ fuel → (∀ p ∈ ps, p < 2 ^ 32) → StrictInc (last.toList ++ ps) → cust ∉ ps →
    n + ps.length ≤ maxLen → (last.isSome = true ∨ ps ≠ []) →
    provLoop maxLen cust fuel (encodeProviders ps) last n = some (n + ps.length) := by
  intro ps
  induction ps with
  | nil =>
    intro fuel last n _ _ _ _ _ hl
    cases fuel <;> exact if_pos ⟨rfl, hl.resolve_right (fun h => h rfl)⟩
  | cons p ps ih =>
    intro fuel last n hf hv hinc hnot hlen _
    cases fuel with
    | zero => cases hf
    | succ f =>
      obtain ⟨hfol, hinc'⟩ := (strictInc_toList_cons last p ps).1 hinc
      rw [List.length_cons] at hlen
      rw [encodeProviders_cons, provLoop, (takeOptAsn_encode p (hv p (List.mem_cons_self ..))).1]
      dsimp only
      rw [if_neg (by omega), if_neg (fun e => hnot (by rw [← e]; exact List.mem_cons_self ..)),
        ih f (some p) (n + 1) (Nat.le_of_succ_le_succ hf) (fun x hx => hv x (List.mem_cons_of_mem _ hx)) hinc'
          (fun hx => hnot (List.mem_cons_of_mem _ hx)) (by omega) (Or.inl rfl), List.length_cons,
        Nat.add_assoc, Nat.add_comm 1]
      cases last with
      | none => rfl
      | some l => exact if_pos (decide_eq_true (hfol l rfl))

/-- `AsProviderAttestation::take_from` on what `AsProviderAttestation::encode_ref` writes; data after the value is
ignored -/
theorem decodeAspa_encodeAspa (maxLen cust : Nat) (ps : List Nat) (hc : cust < 2 ^ 32)
    (hps : ∀ p ∈ ps, p < 2 ^ 32) (hne : ps ≠ []) (hinc : StrictInc ps) (hnot : cust ∉ ps)
    (hlen : ps.length ≤ maxLen) (trailing : Bytes) :
    decodeAspa maxLen (encodeAspa cust (encodeProviders ps) ++ trailing)
      = some ⟨cust, encodeProviders ps, ps.length⟩ := by
  have hloop := provLoop_encode maxLen cust ps (encodeProviders ps).length none 0
    (length_le_encodeProviders ps) hps hinc hnot (by omega) (Or.inr hne)
  rw [Nat.zero_add] at hloop
  unfold encodeAspa decodeAspa
  simp (disch := decide) only [List.append_assoc, takeCons_reads, takePrim_reads, decodeU8_encodeU8 1,
    AsDer.decodeU32_encodeU32 cust hc, hloop, ne_eq, not_true_eq_false, or_self,
    if_false]

/-- the two conditional conjuncts are as weak as the loop: it tests the limit only when it counts an item, and asks for
an item (`last.isSome`) only at the end -/
theorem provLoop_parity (maxLen cust : Nat) (fuel : Nat) (b : Bytes) (last : Option Nat) (n k : Nat)
    (h : provLoop maxLen cust fuel b last n = some k) :
    ∃ items, iteratePass takeOptAsn fuel b = some items ∧ items.length + n = k ∧
      (items ≠ [] → k ≤ maxLen) ∧ StrictInc (last.toList ++ items) ∧ cust ∉ items ∧
      (last = none → items ≠ []) := by
  have stop : ∀ (b : Bytes) (last : Option Nat) (n : Nat), b = [] ∧ last.isSome = true →
      ∃ items : List Nat, some [] = some items ∧ items.length + n = n ∧ (items ≠ [] → n ≤ maxLen) ∧
        StrictInc (last.toList ++ items) ∧ cust ∉ items ∧ (last = none → items ≠ []) :=
    fun _ last n hl => ⟨[], rfl, Nat.zero_add n, fun e => absurd rfl e, List.append_nil _ ▸ strictInc_toList last,
      List.not_mem_nil, fun e => by rw [e] at hl; cases hl.2⟩
  fun_induction provLoop maxLen cust fuel b last n <;> try (cases h; done)
  · cases h; exact stop _ _ _ ‹_›
  · cases h; rw [iteratePass, ‹takeOptAsn _ = _›]; exact stop _ _ _ ‹_›
  · rename_i c3 ih
    obtain ⟨items, i1, i2, i3, i4, i5, _⟩ := ih h
    rw [iteratePass, ‹takeOptAsn _ = _›]
    refine ⟨_ :: items, congrArg (Option.map (_ :: ·)) i1, by rw [List.length_cons]; omega, fun _ => ?_,
      (strictInc_toList_cons _ _ items).2 ⟨fun l e => by subst e; exact of_decide_eq_true c3, i4⟩, ?_,
      fun _ => List.cons_ne_nil _ _⟩
    · by_cases e : items = []
      · subst e; rw [List.length_nil] at i2; omega
      · exact i3 e
    · intro hx
      rcases List.mem_cons.1 hx with e | e
      · exact ‹¬ _ = cust› e.symm
      · exact i5 e

example : encodeU8 0 = [0] ∧ encodeU8 127 = [127] ∧ encodeU8 128 = [0, 128] ∧ encodeU8 255 = [0, 255] := by
  decide

example : decodeU8 [0, 127] = none ∧ decodeU8 [128] = none ∧ decodeU8 [] = none ∧ decodeU8 [1, 0] = none := by
  decide

example : (⟨10 * 2 ^ 120, 8, some 24⟩ : Addr).WF ∧ addrOk 32 ⟨10 * 2 ^ 120, 8, some 24⟩ = true := by
  refine ⟨⟨by decide, by decide, by decide, ?_⟩, by decide⟩
  intro m hm
  injection hm with hm
  omega

/-- the octet-range hypothesis of `decodeContent_asId` is needed: the model's octets are naturals,
and an out-of-range "octet" in the INTEGER content is carried into the value -/
example : (decodeContent [48, 6, 2, 2, 1, 2 ^ 40, 48, 0]).map (·.asId) = some (256 + 2 ^ 40) := by decide

example : decodeAspa 16 (encodeAspa 5 (encodeProviders [])) = none ∧
    decodeAspa 16 (encodeAspa 5 (encodeProviders [7, 1])) = none ∧
    decodeAspa 16 (encodeAspa 5 (encodeProviders [1, 5])) = none ∧
    decodeAspa 1 (encodeAspa 5 (encodeProviders [1, 7])) = none := by decide

end Rpki.Roa
