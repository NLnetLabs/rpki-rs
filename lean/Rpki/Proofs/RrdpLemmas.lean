/-
  The checks of `Rpki.Model.Rrdp` outside the XML text: the delta chain, and the read budget, where an
  invariant of `step` bounds the octets pulled since the last reset by the limit plus one buffer.
-/
import Rpki.Model.Rrdp
import Rpki.Proofs.ListLemmas
import Rpki.Proofs.NatLemmas
namespace Rpki.Rrdp

theorem insertSorted_eq (x : Nat) : ∀ l, insertSorted x l = Lists.insertBy (· < ·) x l
  | [] => rfl
  | y :: ys => by unfold insertSorted Lists.insertBy; rw [insertSorted_eq x ys]

theorem insertSorted_perm (x : Nat) (l : List Nat) : (insertSorted x l).Perm (x :: l) :=
  insertSorted_eq x l ▸ Lists.perm_insertBy _ x l

theorem insertSorted_sorted (x : Nat) (l : List Nat) (h : l.Pairwise (· ≤ ·)) :
    (insertSorted x l).Pairwise (· ≤ ·) :=
  insertSorted_eq x l ▸ Lists.pairwise_insertBy _ _ x (fun _ => Nat.le_of_lt) (fun _ => Nat.le_of_not_lt) Nat.le_trans l h

theorem sortSerials_sorted (l : List Nat) : (sortSerials l).Pairwise (· ≤ ·) := by
  induction l with
  | nil => simp [sortSerials]
  | cons x xs ih => rw [sortSerials]; exact insertSorted_sorted x _ ih

theorem sortSerials_perm (l : List Nat) : (sortSerials l).Perm l := by
  induction l with
  | nil => simp [sortSerials]
  | cons x xs ih => rw [sortSerials]; exact (insertSorted_perm x _).trans (List.Perm.cons x ih)

theorem sortSerials_length (l : List Nat) : (sortSerials l).length = l.length :=
  (sortSerials_perm l).length_eq

theorem retained_suffix (l : List Nat) (lim : Option Nat) :
    ∃ pre, sortSerials l = pre ++ retained l lim := by
  unfold retained
  cases lim with
  | none => exact ⟨[], rfl⟩
  | some k =>
    simp only
    split
    · exact ⟨(sortSerials l).take ((sortSerials l).length - k), (List.take_append_drop _ _).symm⟩
    · exact ⟨[], rfl⟩

theorem retained_sorted (l : List Nat) (lim : Option Nat) : (retained l lim).Pairwise (· ≤ ·) := by
  obtain ⟨pre, e⟩ := retained_suffix l lim
  have := sortSerials_sorted l
  rw [e, List.pairwise_append] at this
  exact this.2.1

theorem retained_length (l : List Nat) (lim : Option Nat) :
    (retained l lim).length = match lim with | some k => min k l.length | none => l.length := by
  unfold retained
  cases lim with
  | none => exact sortSerials_length l
  | some k =>
    simp only
    split
    · rename_i h
      rw [sortSerials_length] at h
      rw [List.length_drop, sortSerials_length, Nat.sub_sub_self (Nat.le_of_lt h), Nat.min_eq_left (Nat.le_of_lt h)]
    · rename_i h
      rw [sortSerials_length] at h ⊢
      exact (Nat.min_eq_right (Nat.le_of_not_lt h)).symm

theorem mem_retained {l : List Nat} {lim : Option Nat} {s : Nat} (h : s ∈ retained l lim) : s ∈ l := by
  obtain ⟨pre, e⟩ := retained_suffix l lim
  apply (sortSerials_perm l).mem_iff.mp
  rw [e]
  exact List.mem_append_right _ h

theorem chainLoop_iff (last : Nat) (rest : List Nat) (h : ∀ s ∈ last :: rest, s ≤ u64Max) :
    ∃ b, chainLoop last rest = .ok b ∧ (b = true ↔ Consecutive (last :: rest)) := by
  induction rest generalizing last with
  | nil => exact ⟨true, by simp [chainLoop], by simp [Consecutive]⟩
  | cons d rest ih =>
    have hd : ∀ s ∈ d :: rest, s ≤ u64Max := fun s hs => h s (List.mem_cons_of_mem _ hs)
    have hdle : d ≤ u64Max := hd d (List.mem_cons_self)
    rw [chainLoop]
    -- the source adds with `checked_add`: the branch that could panic is not taken
    simp only [Rpki.Consts.rrdpDeltaCheckedAdd, if_true]
    by_cases hc : last < u64Max ∧ last + 1 = d
    · rw [if_pos hc]
      obtain ⟨b, hb, hiff⟩ := ih d hd
      refine ⟨b, hb, ?_⟩
      rw [hiff]
      simp only [Consecutive]
      exact ⟨fun c => ⟨hc.2.symm, c⟩, fun c => c.2⟩
    · rw [if_neg hc]
      refine ⟨false, rfl, ?_⟩
      simp only [Consecutive, Bool.false_eq_true, false_iff]
      rintro ⟨e, _⟩
      apply hc
      exact ⟨by omega, e.symm⟩

/-- every `fill_buf` offers at most `B` octets -/
def WF (B : Nat) (ops : List Op) : Prop := ∀ op ∈ ops, match op with | .fill a => a ≤ B | _ => True

/-- the invariant carried through a run: the trip is the saturated count of pulled octets, the
unconsumed rest of the buffer is at most `B`, and under a limit that can trip (`0 < limit < u64Max`)
pulled plus the unconsumed rest stays within `limit + B` -/
def Inv (B : Nat) (r : Run) : Prop :=
  r.c.trip = min r.pulled u64Max ∧ r.lastFill ≤ B ∧
  (0 < r.c.limit → r.c.limit < u64Max → r.pulled + r.lastFill ≤ r.c.limit + B)

theorem WF_mono {B B' : Nat} (hB : B ≤ B') {ops : List Op} (h : WF B ops) : WF B' ops := by
  intro op hop
  have := h op hop
  cases op with
  | fill a => exact Nat.le_trans this hB
  | consume a => trivial
  | reset l => trivial

theorem fillOk_false_iff (c : Counter) : c.fillOk = false ↔ (0 < c.limit ∧ c.limit < c.trip) := by
  simp [Counter.fillOk]

theorem fillOk_true_iff (c : Counter) : c.fillOk = true ↔ ¬ (0 < c.limit ∧ c.limit < c.trip) := by
  rw [← fillOk_false_iff]; cases c.fillOk <;> simp

theorem Inv_reset (B : Nat) (r : Run) (limit : Nat) (h : r.lastFill ≤ B) :
    Inv B (step r (.reset limit)) := by
  simp only [Inv, step, Counter.resetAndLimit]
  refine ⟨by simp, h, ?_⟩
  intro _ _; omega

theorem Inv_step (B : Nat) (r : Run) (op : Op) (hop : ∀ a, op = .fill a → a ≤ B)
    (h : Inv B r) : Inv B (step r op) := by
  fun_cases step r op
  case case2 a _ hf =>
    obtain ⟨h1, _, _⟩ := h
    refine ⟨h1, hop a rfl, fun (hl : 0 < r.c.limit) (hu : r.c.limit < u64Max) => ?_⟩
    -- a fill is granted only while the trip is within the limit, and below `u64Max` the trip is exact
    have hle : r.c.trip ≤ r.c.limit :=
      Nat.le_of_not_lt fun hc => (fillOk_true_iff r.c).mp hf ⟨hl, hc⟩
    have : r.pulled ≤ r.c.limit := by
      rw [h1] at hle
      omega
    exact Nat.add_le_add this (hop a rfl)
  case case5 a _ _ =>
    obtain ⟨h1, h2, h3⟩ := h
    refine ⟨?_, Nat.le_trans (Nat.sub_le _ _) h2, fun hl hu => ?_⟩
    · show min (r.c.trip + min a r.lastFill) u64Max = min (r.pulled + min a r.lastFill) u64Max
      rw [h1]
      exact Arith.min_add_min _ _ _
    · show r.pulled + min a r.lastFill + (r.lastFill - min a r.lastFill) ≤ r.c.limit + B
      rw [Nat.add_assoc, Nat.add_sub_cancel' (Nat.min_le_right _ _)]
      exact h3 hl hu
  case case6 l => exact Inv_reset B r l h.2.1
  -- a refused run does nothing, and a refusal changes only `refused`
  all_goals exact h

theorem Inv_run (B : Nat) (ops : List Op) (r : Run) (hwf : WF B ops) (h : Inv B r) : Inv B (run r ops) :=
  List.foldlRecOn ops step h fun r h op hop => Inv_step B r op (fun _ e => by subst e; exact hwf _ hop) h

theorem step_limit (r : Run) (op : Op) (h : ∀ l, op ≠ .reset l) : (step r op).c.limit = r.c.limit := by
  fun_cases step r op
  case case6 l => exact absurd rfl (h l)
  all_goals rfl

theorem run_limit (ops : List Op) (r : Run) (h : ∀ op ∈ ops, ∀ l, op ≠ .reset l) :
    (run r ops).c.limit = r.c.limit :=
  List.foldlRecOn (motive := fun r' => r'.c.limit = r.c.limit) ops step rfl
    fun r' e op hop => (step_limit r' op (h op hop)).trans e

theorem budget_inv (B : Nat) (r : Run) (ops : List Op) (hwf : WF B ops) (hinv : Inv B r)
    (hl : 0 < (run r ops).c.limit) (hu : (run r ops).c.limit < u64Max) :
    (run r ops).pulled ≤ (run r ops).c.limit + B := by
  have := (Inv_run B ops r hwf hinv).2.2 hl hu
  omega

/-- the budget: after `reset limit` with `0 < limit < 2^64-1`, if the unconsumed rest of the buffer
is at most `B` and every later fill offers at most `B`, at most `limit + B` octets are pulled -/
theorem budget (B limit : Nat) (hl : 0 < limit) (hsmall : limit < u64Max) (r0 : Run) (ops : List Op)
    (hB : r0.lastFill ≤ B) (hwf : WF B ops) (hops : ∀ op ∈ ops, ∀ l, op ≠ .reset l) :
    (run (step r0 (.reset limit)) ops).pulled ≤ limit + B := by
  have hlim : (run (step r0 (.reset limit)) ops).c.limit = limit := by
    rw [run_limit ops _ hops]; rfl
  have := budget_inv B (step r0 (.reset limit)) ops hwf (Inv_reset B r0 limit hB)
    (by rw [hlim]; exact hl) (by rw [hlim]; exact hsmall)
  rw [hlim] at this
  exact this

theorem budget' (B limit : Nat) (hl : 0 < limit) (hsmall : limit < u64Max) (r0 : Run) (ops : List Op)
    (hwf : WF B ops) (hops : ∀ op ∈ ops, ∀ l, op ≠ .reset l) :
    (run (step r0 (.reset limit)) ops).pulled ≤ limit + max B r0.lastFill :=
  budget (max B r0.lastFill) limit hl hsmall r0 ops (Nat.le_max_right _ _)
    (WF_mono (Nat.le_max_left _ _) hwf) hops

theorem budget_sum (B limit : Nat) (hl : 0 < limit) (hsmall : limit + B < u64Max) (r0 : Run)
    (ops : List Op) (hwf : WF B ops) (hops : ∀ op ∈ ops, ∀ l, op ≠ .reset l) :
    (run (step r0 (.reset limit)) ops).pulled ≤ limit + B + r0.lastFill := by
  have := budget' B limit hl (by omega) r0 ops hwf hops
  omega

theorem no_limit_never_refuses (r : Run) (avail : Nat) (h : r.c.limit = 0) (h3 : r.refused = false) :
    (step r (.fill avail)).refused = false := by
  have hf : r.c.fillOk = true := (fillOk_true_iff r.c).mpr (by omega)
  simp [step, h3, hf]

end Rpki.Rrdp
