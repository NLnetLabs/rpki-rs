/-
  bcder's `skip_opt` stack machine (`CertDer.skipLoop`): what it leaves is a proper suffix of what it was given, and
  its fuel is enough.  `skipStepM` is one turn of it; the facts about the loop are inductions over `skipLoopM_succ` that
  never see the loop's body.  A lemma `fooM (ber : Bool)` is about the mode-parametrized readers of `Model/Ber.lean`; the
  lemma `foo` after it is its `ber = false` instance, the DER model.
-/
import Rpki.Proofs.BerLeaf
import Rpki.Proofs.ListLemmas
namespace Rpki.CertDer
open Rpki.Der

def tailOf (st : List Frame) : Bytes :=
  (st.map fun f => match f with | .definite a => a | .indefinite => []).flatten

/-- the octets still ahead of the machine: the current limit, then what follows every enclosing
definite-length value -/
def flat (cur : Bytes) (st : List Frame) : Bytes := cur ++ tailOf st

theorem tailOf_definite (a : Bytes) (st : List Frame) : tailOf (.definite a :: st) = a ++ tailOf st := rfl

theorem flat_nil (cur : Bytes) : flat cur [] = cur := List.append_nil cur

theorem post_flat : ∀ (st : List Frame) (cur : Bytes),
    (∀ rest, post cur st = .done rest → flat cur st = rest) ∧
    (∀ c s, post cur st = .more c s → flat c s = flat cur st)
  | [], cur => by rw [post]; exact ⟨fun _ h => by cases h; exact List.append_nil _, nofun⟩
  | .definite after :: st, [] => by rw [post]; exact post_flat st after
  | .indefinite :: _, [] => by rw [post]; exact ⟨nofun, nofun⟩
  | _ :: _, _ :: _ => by rw [post]; exact ⟨nofun, fun _ _ h => by cases h; rfl⟩

theorem tagCont_suffix : ∀ (n : Nat) (r r' : Bytes), tagCont n r = some r' → r' <:+ r ∧ r'.length < r.length := by
  intro n
  induction n with
  | zero => intro r r' h; simp [tagCont] at h
  | succ n ih =>
    intro r r' h
    cases r with
    | nil => simp [tagCont] at h
    | cons x r =>
      simp only [tagCont] at h
      split at h
      · injection h with h; subst h; exact ⟨List.suffix_cons _ _, by simp⟩
      · obtain ⟨h1, h2⟩ := ih r r' h
        exact ⟨h1.trans (List.suffix_cons _ _), by simp; omega⟩

theorem takeTagAny_suffix (b : Bytes) (t : Nat) (r : Bytes) (h : takeTagAny b = some (t, r)) :
    r <:+ b ∧ r.length < b.length := by
  unfold takeTagAny at h
  cases b with
  | nil => cases h
  | cons t0 r0 =>
    simp only at h
    split at h
    · rw [Option.map_eq_some_iff] at h
      obtain ⟨r', hr, e⟩ := h
      injection e with _ e2; subst e2
      obtain ⟨h1, h2⟩ := tagCont_suffix 3 r0 r' hr
      exact ⟨h1.trans (List.suffix_cons _ _), by simp; omega⟩
    · injection h with h; injection h with _ e2; subst e2
      exact ⟨List.suffix_cons _ _, by simp⟩

/-- `Length::take_from`: what it reads is one to five octets at the head of its input, and the mode's test only ever
refuses, so the BER reader reads the same. -/
theorem readLenM_spec (ber : Bool) (r : Bytes) (l : Nat) (r' : Bytes) (h : readLenM ber r = some (l, r')) :
    (∃ lb, r = lb ++ r' ∧ 1 ≤ lb.length ∧ lb.length ≤ 5) ∧ readLenM true r = some (l, r') := by
  -- the long forms: the rest is what follows the length octets, and a test `ber ∨ c` that passed passes as `true ∨ c`
  have guard : ∀ {c : Prop} [Decidable c] {v : Nat} {r0 : Bytes},
      (if ber ∨ c then some (v, r0) else none) = some (l, r') →
        r0 = r' ∧ (if true ∨ c then some (v, r0) else none) = some (l, r') := by
    intro c _ v r0 hg
    rw [if_pos (Or.inl rfl)]
    split at hg
    · cases hg; exact ⟨rfl, rfl⟩
    · cases hg
  unfold readLenM at h ⊢
  cases r with
  | nil => cases h
  | cons n rr =>
    dsimp only at h ⊢
    -- `split` on the whole body is slow to check; the conditions on the first octet are rewritten one by one
    by_cases h1 : n < 128
    · rw [if_pos h1] at h ⊢; cases h; exact ⟨⟨[_], rfl, by simp, by simp⟩, rfl⟩
    rw [if_neg h1] at h ⊢
    by_cases h2 : n = 0x81
    · rw [if_pos h2] at h ⊢
      split at h
      · obtain ⟨rfl, g⟩ := guard h; exact ⟨⟨[_, _], rfl, by simp, by simp⟩, g⟩
      · cases h
    rw [if_neg h2] at h ⊢
    by_cases h3 : n = 0x82
    · rw [if_pos h3] at h ⊢
      split at h
      · obtain ⟨rfl, g⟩ := guard h; exact ⟨⟨[_, _, _], rfl, by simp, by simp⟩, g⟩
      · cases h
    rw [if_neg h3] at h ⊢
    by_cases h4 : n = 0x83
    · rw [if_pos h4] at h ⊢
      split at h
      · obtain ⟨rfl, g⟩ := guard h; exact ⟨⟨[_, _, _, _], rfl, by simp, by simp⟩, g⟩
      · cases h
    rw [if_neg h4] at h ⊢
    by_cases h5 : n = 0x84
    · rw [if_pos h5] at h ⊢
      split at h
      · obtain ⟨rfl, g⟩ := guard h; exact ⟨⟨[_, _, _, _, _], rfl, by simp, by simp⟩, g⟩
      · cases h
    rw [if_neg h5] at h
    cases h

theorem _root_.Rpki.Der.readLen_inv (r : Bytes) (l : Nat) (r' : Bytes) (h : readLen r = some (l, r')) :
    ∃ lb, r = lb ++ r' ∧ 1 ≤ lb.length ∧ lb.length ≤ 5 :=
  (readLenM_spec false r l r' (Rpki.readLenM_false ▸ h)).1

theorem readLen_suffixM (ber : Bool) (r : Bytes) (l : Nat) (r' : Bytes) (h : readLenM ber r = some (l, r')) :
    r' <:+ r ∧ r'.length < r.length := by
  obtain ⟨lb, rfl, h1, _⟩ := (readLenM_spec ber r l r' h).1
  exact ⟨List.suffix_append _ _, by rw [List.length_append]; omega⟩

theorem readLenX_suffixM (ber : Bool) (r : Bytes) (len : Len) (r' : Bytes) (h : readLenXM ber r = some (len, r')) :
    r' <:+ r ∧ r'.length < r.length := by
  unfold readLenXM at h
  split at h
  · cases h; exact ⟨List.suffix_cons _ _, Nat.lt_succ_self _⟩
  · rw [Option.map_eq_some_iff] at h
    obtain ⟨⟨n, r2⟩, hr, e⟩ := h
    cases e
    exact readLen_suffixM ber r n _ hr

/-- What a turn of `skip_opt` does once tag and length of the value at the head are read: a primitive value is
passed over, a constructed one entered, and the values that have ended are closed.  The mode is not asked. -/
def skipValue (t : Nat) (len : Len) (r' : Bytes) (st : List Frame) : Post :=
  if !isCons t then
    if t = 0 then
      match len, st with
      | .definite 0, .indefinite :: st' => post r' st'
      | _, _ => .fail
    else
      match len with
      | .definite n => if r'.length < n then .fail else post (r'.drop n) st
      | .indefinite => .fail
  else
    match len with
    | .definite n => if r'.length < n then .fail else post (r'.take n) (.definite (r'.drop n) :: st)
    | .indefinite => .more r' (.indefinite :: st)

/-- One turn of the outer loop of `skip_opt`: it ends with what is left, goes on in a new state, or fails. -/
def skipStepM (ber : Bool) (cur : Bytes) (st : List Frame) : Post :=
  match takeTagAny cur with
  | none => .fail
  | some (t, r) =>
    match readLenXM ber r with
    | none => .fail
    | some (len, r') => skipValue t len r' st

/-- The loop is its turn, repeated: the only place where the body of `skipLoopM` is unfolded. -/
theorem skipLoopM_succ (ber : Bool) (n : Nat) (cur : Bytes) (st : List Frame) :
    skipLoopM ber (n + 1) cur st =
      match skipStepM ber cur st with
      | .done rest => some rest
      | .more c s => skipLoopM ber n c s
      | .fail => none := by
  rw [skipLoopM, skipStepM]
  cases takeTagAny cur with
  | none => rfl
  | some p =>
    obtain ⟨t, r⟩ := p
    dsimp only
    cases readLenXM ber r with
    | none => rfl
    | some q =>
      obtain ⟨len, r'⟩ := q
      dsimp only
      fun_cases skipValue t len r' st
      all_goals simp only [*, if_true, if_false]
      -- what is left differs in the names of the match functions only
      all_goals rfl

/-- A turn reads a header of at least two octets and ends, or goes on, inside what was ahead of it. -/
theorem skipStepM_flat (ber : Bool) (cur : Bytes) (st : List Frame) :
    (∀ rest, skipStepM ber cur st = .done rest → rest <:+ flat cur st ∧ rest.length + 2 ≤ (flat cur st).length) ∧
    (∀ c s, skipStepM ber cur st = .more c s →
      flat c s <:+ flat cur st ∧ (flat c s).length + 2 ≤ (flat cur st).length) := by
  unfold skipStepM
  cases ht : takeTagAny cur with
  | none => exact ⟨nofun, nofun⟩
  | some p =>
    obtain ⟨t, r⟩ := p
    dsimp only
    cases hl : readLenXM ber r with
    | none => exact ⟨nofun, nofun⟩
    | some q =>
      obtain ⟨len, r'⟩ := q
      dsimp only
      have hr := (readLenX_suffixM ber r len r' hl).1.trans (takeTagAny_suffix cur t r ht).1
      have hlen : r'.length + 2 ≤ cur.length := by
        have := (readLenX_suffixM ber r len r' hl).2; have := (takeTagAny_suffix cur t r ht).2; omega
      -- `r'` is what follows the header: whatever lies inside `r'` and the frames lies inside what was ahead
      have inside : ∀ F : Bytes, F <:+ r' ++ tailOf st → F <:+ flat cur st ∧ F.length + 2 ≤ (flat cur st).length := by
        intro F hF
        have := hF.length_le
        refine ⟨hF.trans (List.suffix_append_self_iff.2 hr), ?_⟩
        rw [flat, List.length_append]; rw [List.length_append] at this; omega
      have after : ∀ (c : Bytes) (s : List Frame), flat c s <:+ r' ++ tailOf st →
          (∀ rest, post c s = .done rest → rest <:+ flat cur st ∧ rest.length + 2 ≤ (flat cur st).length) ∧
          (∀ c' s', post c s = .more c' s' →
            flat c' s' <:+ flat cur st ∧ (flat c' s').length + 2 ≤ (flat cur st).length) := by
        intro c s hsub
        refine ⟨fun rest h => ?_, fun c' s' h => ?_⟩
        · rw [← (post_flat s c).1 rest h]; exact inside _ hsub
        · rw [(post_flat s c).2 c' s' h]; exact inside _ hsub
      fun_cases skipValue t len r' st
      all_goals try (refine ⟨fun _ h => ?_, fun _ _ h => ?_⟩ <;> cases h <;> done)
      · exact after _ _ (List.suffix_refl _)
      · exact after _ _ (List.suffix_append_self_iff.2 (List.drop_suffix _ _))
      · refine after _ _ ?_
        rw [flat, tailOf_definite, ← List.append_assoc, List.take_append_drop]
        exact List.suffix_refl _
      · refine ⟨nofun, fun c s h => ?_⟩
        cases h
        exact inside _ (List.suffix_refl _)

theorem skipLoop_suffixM (ber : Bool) : ∀ (fuel : Nat) (cur : Bytes) (st : List Frame) (rest : Bytes),
    skipLoopM ber fuel cur st = some rest →
    rest <:+ flat cur st ∧ rest.length + 2 ≤ (flat cur st).length := by
  intro fuel
  induction fuel with
  | zero => nofun
  | succ n ih =>
    intro cur st rest h
    rw [skipLoopM_succ] at h
    cases hs : skipStepM ber cur st with
    | fail => rw [hs] at h; cases h
    | done r => rw [hs] at h; cases h; exact (skipStepM_flat ber cur st).1 _ hs
    | more c s =>
      rw [hs] at h
      obtain ⟨h1, h2⟩ := ih c s rest h
      obtain ⟨g1, g2⟩ := (skipStepM_flat ber cur st).2 c s hs
      exact ⟨h1.trans g1, by omega⟩

theorem skipOne_suffixM (ber : Bool) (b rest : Bytes) (h : skipOneM ber b = some rest) : rest <:+ b ∧ rest.length + 2 ≤ b.length := by
  have := skipLoop_suffixM ber (b.length + 1) b [] rest h
  rwa [flat_nil] at this

/-- A `none` of `skipOne` is always a refusal of the input, never an exhausted counter: every turn uses up two
octets of what is ahead, so any two counters above half of that give the same. -/
theorem skipLoop_fuelM (ber : Bool) : ∀ (k1 k2 : Nat) (cur : Bytes) (st : List Frame),
    (flat cur st).length < 2 * k1 → (flat cur st).length < 2 * k2 → skipLoopM ber k1 cur st = skipLoopM ber k2 cur st := by
  intro k1
  induction k1 with
  | zero => intro _ _ _ h; omega
  | succ n ih =>
    intro k2 cur st h1 h2
    cases k2 with
    | zero => omega
    | succ m =>
      rw [skipLoopM_succ, skipLoopM_succ]
      cases hs : skipStepM ber cur st with
      | fail => rfl
      | done r => rfl
      | more c s =>
        have := ((skipStepM_flat ber cur st).2 c s hs).2
        exact ih m c s (by omega) (by omega)

theorem skipOne_fuelM (ber : Bool) (b : Bytes) (k : Nat) : skipLoopM ber (b.length + 1 + k) b [] = skipOneM ber b :=
  skipLoop_fuelM ber _ _ b [] (by rw [flat_nil]; omega) (by rw [flat_nil]; omega)

end Rpki.CertDer
