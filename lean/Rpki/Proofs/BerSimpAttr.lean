/-
  The simp set `ber_path`: what is left of a guard or of a side condition once the equations of an accepted path have
  been put in (used by every proof of `Gen/BerMonoGen.lean`; filled in `Proofs/BerMono.lean`).
-/
import Lean.Meta.Tactic.Simp.RegisterCommand
register_simp_attr ber_path
