/-
  The skip machine accepts every well-formed definite-length DER forest: what `capture_one` / `skip_one`
  do on the encodings the library's writers produce.
-/
import Rpki.Proofs.SkipLemmas
import Rpki.Proofs.DerLemmas
namespace Rpki.CertDer
open Rpki.Der

/-- the machine with a counter that is enough: more than half the octets ahead (`skipLoop_fuelM`) -/
def run (cur : Bytes) (st : List Frame) : Option Bytes := skipLoop ((flat cur st).length + 1) cur st

theorem skipLoop_eq_run (fuel : Nat) (cur : Bytes) (st : List Frame) (h : (flat cur st).length < 2 * fuel) :
    skipLoop fuel cur st = run cur st :=
  (Rpki.skipLoopM_false ▸ skipLoop_fuelM false) _ _ cur st h (by omega)

/-- what the loop does after a value has ended: `post`, then the run from the state it gives -/
def contR (c : Bytes) (s : List Frame) : Option Bytes :=
  match post c s with
  | .done r => some r
  | .more c' s' => run c' s'
  | .fail => none

/-- The run is a turn and then the run from the new state: the counter is out of the way. -/
theorem run_step (cur : Bytes) (st : List Frame) :
    run cur st = match skipStepM false cur st with
      | .done r => some r
      | .more c s => run c s
      | .fail => none := by
  unfold run
  rw [← Rpki.skipLoopM_false, skipLoopM_succ]
  cases hs : skipStepM false cur st with
  | done r => rfl
  | fail => rfl
  | more c s =>
    have := ((skipStepM_flat false cur st).2 c s hs).2
    exact Rpki.skipLoopM_false ▸ skipLoop_eq_run _ c s (by omega)

theorem readLenX_encLen (n : Nat) (rest : Bytes) : readLenX (encLen n ++ rest) = some (.definite n, rest) := by
  obtain ⟨h, t, e, h80, _⟩ := encLen_shape n
  have hr := readLen_encLen' n rest
  rw [e] at hr ⊢
  unfold readLenX
  split
  · rename_i heq; exact absurd (List.cons.inj heq).1 h80
  · rw [hr]; rfl

theorem skipStepM_tlv (t : Nat) (c more : Bytes) (st : List Frame) (ht : t % 32 ≠ 31) :
    skipStepM false (tlv t c ++ more) st = skipValue t (.definite c.length) (c ++ more) st := by
  rw [skipStepM, tlv_append, takeTagAny, if_neg ht]
  dsimp only
  rw [Rpki.readLenXM_false, readLenX_encLen]

theorem run_prim (t : Nat) (c more : Bytes) (st : List Frame) (ht : t % 32 ≠ 31) (hp : isCons t = false)
    (h0 : t ≠ 0) : run (tlv t c ++ more) st = contR more st := by
  rw [run_step, skipStepM_tlv t c more st ht]
  unfold skipValue
  simp only [hp, Bool.not_false, if_true, h0, if_false, List.length_append, Nat.not_lt.2 (Nat.le_add_right _ _),
    List.drop_left']
  rfl

theorem run_cons (t : Nat) (c more : Bytes) (st : List Frame) (ht : t % 32 ≠ 31) (hp : isCons t = true) :
    run (tlv t c ++ more) st = contR c (.definite more :: st) := by
  rw [run_step, skipStepM_tlv t c more st ht]
  unfold skipValue
  simp only [hp, Bool.not_true, Bool.false_eq_true, if_false, List.length_append,
    Nat.not_lt.2 (Nat.le_add_right _ _), List.drop_left', List.take_left']
  rfl

/-- a concatenation of well-formed definite-length values (single-octet tags; a primitive value is not the
end-of-contents marker) -/
inductive Forest : Bytes → Prop
  | nil : Forest []
  | prim (t : Nat) (c rest : Bytes) : t % 32 ≠ 31 → isCons t = false → t ≠ 0 → Forest rest →
      Forest (tlv t c ++ rest)
  | cons (t : Nat) (c rest : Bytes) : t % 32 ≠ 31 → isCons t = true → Forest c → Forest rest →
      Forest (tlv t c ++ rest)

theorem Forest.append {a b : Bytes} (ha : Forest a) (hb : Forest b) : Forest (a ++ b) := by
  induction ha with
  | nil => exact hb
  | prim t c rest ht hp h0 _ ih => rw [List.append_assoc]; exact Forest.prim t c _ ht hp h0 ih
  | cons t c rest ht hp hc _ _ ih => rw [List.append_assoc]; exact Forest.cons t c _ ht hp hc ih

theorem Forest.prim1 (t : Nat) (c : Bytes) (ht : t % 32 ≠ 31 := by decide) (hp : isCons t = false := by decide)
    (h0 : t ≠ 0 := by decide) : Forest (tlv t c) :=
  List.append_nil (tlv t c) ▸ Forest.prim t c [] ht hp h0 Forest.nil

theorem Forest.cons1 (t : Nat) {c : Bytes} (hc : Forest c) (ht : t % 32 ≠ 31 := by decide)
    (hp : isCons t = true := by decide) : Forest (tlv t c) :=
  List.append_nil (tlv t c) ▸ Forest.cons t c [] ht hp hc Forest.nil

theorem contR_nonempty (b : Bytes) (f : Frame) (st : List Frame) (h : b ≠ []) :
    contR b (f :: st) = run b (f :: st) := by
  cases b with
  | nil => exact absurd rfl h
  | cons x xs => simp only [contR, post]

/-- the machine walks through a forest that fills a definite-length value and comes out behind it -/
theorem forest_accept (b : Bytes) (hb : Forest b) :
    ∀ (after : Bytes) (st : List Frame), contR b (.definite after :: st) = contR after st := by
  induction hb with
  | nil => intro after st; simp only [contR, post]
  | prim t c rest ht hp h0 _ ih =>
    intro after st
    rw [contR_nonempty _ _ _ (tlv_append_ne_nil t c rest), run_prim t c rest _ ht hp h0]
    exact ih after st
  | cons t c rest ht hp _ _ ihc ihr =>
    intro after st
    rw [contR_nonempty _ _ _ (tlv_append_ne_nil t c rest), run_cons t c rest _ ht hp, ihc rest _]
    exact ihr after st

theorem skipOne_eq_run (b : Bytes) : skipOne b = run b [] := by
  unfold skipOne run
  rw [flat_nil]

/-- `skip_one` accepts a constructed value whose content is a well-formed forest and leaves exactly what
follows it -/
theorem skipOne_cons (t : Nat) (c rest : Bytes) (ht : t % 32 ≠ 31) (hp : isCons t = true) (hc : Forest c) :
    skipOne (tlv t c ++ rest) = some rest := by
  rw [skipOne_eq_run, run_cons t c rest [] ht hp, forest_accept c hc rest []]
  rfl

theorem skipOne_prim (t : Nat) (c rest : Bytes) (ht : t % 32 ≠ 31) (hp : isCons t = false) (h0 : t ≠ 0) :
    skipOne (tlv t c ++ rest) = some rest := by
  rw [skipOne_eq_run, run_prim t c rest [] ht hp h0]
  rfl

end Rpki.CertDer
