/-
  `SigMsgDer.decodeTbsId` / `decodeIdCert` read back what `IdEnc.encodeTbsId` / `encodeIdCert` write.
-/
import Rpki.Model.IdEnc
import Rpki.Proofs.CertEncCert
namespace Rpki.IdEnc
open Rpki.Der Rpki.CertDer Rpki.SigMsgDer Rpki.CertEnc

theorem idExtension_extBody (e : IdExts) (oid : Bytes) (crit : Bool) (v : Bytes) (ho : oidOk oid = true) :
    idExtension e (extBody oid crit v) = idExtValue e oid v := by
  unfold idExtension extBody
  cases crit <;>
    simp (disch := decide) only [List.append_assoc, takeOid_tlv _ ho, takeOptBool_true, takeOptBool_octet,
      takePrim_reads, Bool.false_eq_true, if_false, if_true, List.nil_append, ne_eq, not_true_eq_false]

theorem idExtension_bc (e : IdExts) (ca : Bool) (he : e.basicCa = none) :
    idExtension e (bcBody ca) = some { e with basicCa := some ca } := by
  have h0 : takeOptBool [] = .absent := rfl
  have h1 : takeOptPrim tagInt [] = .absent := rfl
  rw [bcBody, idExtension_extBody _ _ _ _ (by decide)]
  unfold idExtValue
  rw [if_pos rfl]
  cases ca <;>
    simp (disch := decide) only [he, takeCons_reads, takeOptBool_true, h0, h1,
      if_true, Option.isSome_none, Bool.false_eq_true, if_false]

theorem idExtension_ski (e : IdExts) (k : Bytes) (hk : k.length = 20) (he : e.ski = none) :
    idExtension e (skiBody k) = some { e with ski := some k } := by
  have hk' : keyIdOk k = true := decide_eq_true hk
  rw [skiBody, idExtension_extBody _ _ _ _ (by decide)]
  unfold idExtValue
  rw [if_neg (by decide), if_pos rfl]
  simp (disch := decide) only [he, takePrim_reads, hk', if_true, Option.isSome_none,
    Bool.false_eq_true, if_false]

theorem idExtension_aki (e : IdExts) (k : Bytes) (hk : k.length = 20) :
    idExtension e (akiBody k) = some { e with aki := some k } := by
  have hk' : keyIdOk k = true := decide_eq_true hk
  have h3 : skipAll ([] : Bytes).length [] = true := rfl
  rw [akiBody, idExtension_extBody _ _ _ _ (by decide)]
  unfold idExtValue
  rw [if_neg (by decide), if_neg (by decide), if_pos rfl]
  simp (disch := decide) only [h3, takeCons_reads, takeOptPrim_reads, hk', if_true, and_self]

structure WF (d : IdCertD) : Prop where
  serial : X509.VS d.serial
  issuer : NameOk d.issuer
  subject : NameOk d.subject
  nb : X509.validCivil d.notBefore = true ∧ d.notBefore.y ≤ 9999
  na : X509.validCivil d.notAfter = true ∧ d.notAfter.y ≤ 9999
  key : Manifest.bitStringTake (d.keyUnused :: d.keyBits) = some (d.keyUnused, d.keyBits)
  ski : d.ski.length = 20
  aki : ∀ k, d.aki = some k → k.length = 20

def readBack (d : IdCertD) (raw signature : Bytes) : IdCertD :=
  { d with validity := ⟨civilToEpoch d.notBefore, civilToEpoch d.notAfter⟩, tbs := raw, signature := signature }

theorem idExtItems_fold (d : IdCertD) (h : WF d) :
    (idExtItems d).foldlM idExtension {} = some { basicCa := d.basicCa, ski := some d.ski, aki := d.aki } := by
  unfold idExtItems
  rw [List.foldlM_append, List.foldlM_append,
    Lists.foldlM_opt idExtension bcBody (fun o => { basicCa := o }) {} d.basicCa rfl (fun a _ => idExtension_bc _ a rfl),
    Option.bind_eq_bind, Option.bind_some, Lists.foldlM_one, idExtension_ski _ _ h.ski rfl, Option.bind_some,
    Lists.foldlM_opt idExtension akiBody (fun o => { basicCa := d.basicCa, ski := some d.ski, aki := o }) _ d.aki rfl
      (fun k hk => idExtension_aki _ k (h.aki k hk))]

/-- `TbsIdCert::from_constructed` reads back what `TbsIdCert::encode_ref` writes. -/
theorem decodeTbsId_encodeTbsId (d : IdCertD) (h : WF d) (sig : Bytes) :
    decodeTbsId (encodeTbsId d) sig = some (readBack d (encodeTbsId d) sig) := by
  unfold decodeTbsId
  rw [encodeTbsId, (takeCons_reads tagSeq _).2, ← encodeTbsId]
  simp (disch := decide) only [List.append_assoc, takeCons_reads, takePrim_reads,
    (X509.der_roundtrip' d.serial h.serial).1, takeSigAlg_enc, h.issuer _, takeValidityCivil_enc _ _ h.nb h.na,
    h.subject _, takePublicKey_enc _ _ _ h.key, idExtsOf, takeOptCons_reads, foldCons_seqs,
    idExtItems_fold d h, ne_eq, not_true_eq_false, or_self, if_false]
  rfl

theorem idExtItems_forest (d : IdCertD) : ∀ x ∈ idExtItems d, Forest x := by
  intro x hx
  unfold idExtItems at hx
  simp only [List.mem_append, List.mem_cons, List.mem_nil_iff, or_false, Option.mem_toList, Option.map_eq_some_iff] at hx
  rcases hx with (⟨a, _, rfl⟩ | rfl) | ⟨a, _, rfl⟩
  all_goals exact forest_extBody _ _ _

theorem encodeTbsId_forest (d : IdCertD) (hi : Forest d.issuer) (hs : Forest d.subject) : Tbs (encodeTbsId d) :=
  ⟨_, rfl, (((((((Forest.cons1 0xA0 (Forest.prim1 tagInt [2])).append (Forest.prim1 tagInt _)).append forest_sigAlg).append
    hi).append (Forest.cons1 tagSeq ((forest_timeTlv _).append (forest_timeTlv _)))).append hs).append
    (forest_publicKey _ _ _)).append (Forest.cons1 0xA3 (Forest.cons1 tagSeq (forest_seqs _ (idExtItems_forest d))))⟩

theorem idCertBody_enc (d : IdCertD) (h : WF d) (hi : Forest d.issuer) (hs : Forest d.subject) (signature : Bytes) :
    idCertBody (encodeTbsId d ++ sigAlgEnc ++ tlv tagBitString (0 :: signature)) =
      some (readBack d (encodeTbsId d) signature) := by
  have ht := encodeTbsId_forest d hi hs
  unfold idCertBody
  simp only [List.append_assoc, ht.append_ne_nil, ht.skipOne, Lists.take_length_sub, takeSigAlg_enc, takeBitString_sig,
    decodeTbsId_encodeTbsId d h, if_false, ne_eq, not_true_eq_false]

/-- `IdCert::decode` reads back what `IdCert::to_captured` writes; octets after the certificate are not looked at
(`Mode::decode` hands `take_from` an unbounded source and does not ask for its end). -/
theorem decodeIdCert_encodeIdCert (d : IdCertD) (h : WF d) (hi : Forest d.issuer) (hs : Forest d.subject)
    (signature : Bytes) :
    Reads decodeIdCert (encodeIdCert d signature) fun _ => some (readBack d (encodeTbsId d) signature) := .of fun rest => by
  unfold decodeIdCert encodeIdCert
  simp (disch := decide) only [takeCons_reads, idCertBody_enc d h hi hs]

end Rpki.IdEnc
