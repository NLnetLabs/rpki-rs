/-
  The three RRDP writers (`Rpki.Model.Rrdp`) are instances of the generic document writer (`Rpki.Model.XmlDoc`), so the
  reference reader returns exactly the tree of the fields of the file.  The trees, and so the writers, are injective;
  the `_fields` theorems spell the trees out attribute by attribute and say how each value comes back.
-/
import Rpki.Model.Rrdp
import Rpki.Proofs.PubMsgLemmas
import Std.Data.String.ToNat
namespace Rpki.Rrdp
set_option autoImplicit false
open Rpki.Xml Rpki.XmlDoc


def escAttrs (attrs : List (Bytes × Bytes)) : List (Bytes × Bytes) :=
  attrs.map fun (n, v) => (n, escapeAttr v)

def snapshotRefTree (n : Notification) : Node :=
  .elem sSnapshot (escAttrs [(sUri, n.snapshotUri), (sHash, hexOf n.snapshotHash)]) none

def deltaRefTree (d : DeltaRef) : Node :=
  .elem sDelta (escAttrs [(sSerial, decimal d.serial), (sUri, d.uri), (sHash, hexOf d.hash)]) none

def notificationTree (n : Notification) : Node :=
  .elem sNotification (escAttrs (headAttrs n.session n.serial))
    (some (Nodes.ofList (snapshotRefTree n :: n.deltas.map deltaRefTree)))

/-- the children of a `<publish>`: one Base64 text line; none for an object of length zero (the
writer emits an empty line there, which the reader drops) -/
def dataKids (data : Bytes) : Nodes :=
  if data = [] then .nil else .cons (.text (b64Encode data)) .nil

def elemTree : Elem → Node
  | .publish uri data => .elem sPublish (escAttrs [(sUri, uri)]) (some (dataKids data))
  | .update uri hash data => .elem sPublish (escAttrs [(sUri, uri), (sHash, hexOf hash)]) (some (dataKids data))
  | .withdraw uri hash => .elem sWithdraw (escAttrs [(sUri, uri), (sHash, hexOf hash)]) none

def fileTree (root session : Bytes) (serial : Nat) (elems : List Elem) : Node :=
  .elem root (escAttrs (headAttrs session serial)) (some (Nodes.ofList (elems.map elemTree)))

def Elem.NonEmpty : Elem → Prop
  | .publish _ d => d ≠ []
  | .update _ _ d => d ≠ []
  | .withdraw _ _ => True

/-! ### the trees as written

What is written is `fileTree0`; what is read back is `strip` of it, and that is `fileTree`. -/

def elemTree0 : Elem → Node
  | .publish uri data => .elem sPublish (escAttrs [(sUri, uri)]) (some (.cons (.text (b64Encode data)) .nil))
  | .update uri hash data =>
    .elem sPublish (escAttrs [(sUri, uri), (sHash, hexOf hash)]) (some (.cons (.text (b64Encode data)) .nil))
  | .withdraw uri hash => .elem sWithdraw (escAttrs [(sUri, uri), (sHash, hexOf hash)]) none

def fileTree0 (root session : Bytes) (serial : Nat) (elems : List Elem) : Node :=
  .elem root (escAttrs (headAttrs session serial)) (some (Nodes.ofList (elems.map elemTree0)))

theorem elemTree0_eq : ∀ e : Elem, e.NonEmpty → elemTree0 e = elemTree e
  | .publish _ d, h => by rw [elemTree, dataKids, if_neg h]; rfl
  | .update _ _ d, h => by rw [elemTree, dataKids, if_neg h]; rfl
  | .withdraw .., _ => rfl


theorem head_eq (name : Bytes) (attrs : List (Bytes × Bytes)) :
    [60] ++ name ++ (attrs.map fun (n, v) => attrBytes n v).flatten = headOf name (escAttrs attrs) := by
  unfold headOf escAttrs
  rw [List.map_map]
  rfl

theorem element_empty (level : Nat) (name : Bytes) (attrs : List (Bytes × Bytes)) :
    element level name attrs .empty = writeNode level (.elem name (escAttrs attrs) none) := by
  rw [writeNode_elem_none, ← head_eq]
  rfl

theorem element_text (level : Nat) (name : Bytes) (attrs : List (Bytes × Bytes)) (t : Bytes) :
    element level name attrs (.text t) =
      writeNode level (.elem name (escAttrs attrs) (some (.cons (.text t) .nil))) := by
  rw [writeNode_elem_some, writeKids_cons, writeKids_nil, writeNode_text, ← head_eq]
  simp [element]

theorem element_children (level : Nat) (name : Bytes) (attrs : List (Bytes × Bytes)) (kids : List Node) :
    element level name attrs (.children (kids.map (writeNode (level + 1)))) =
      writeNode level (.elem name (escAttrs attrs) (some (Nodes.ofList kids))) := by
  rw [writeNode_elem_some, writeKids_ofList, ← head_eq, element, List.map_map]
  rfl


theorem writeNotification_eq (n : Notification) : writeNotification n = writeDoc (notificationTree n) := by
  unfold writeNotification writeDoc notificationTree
  rw [← element_children]
  simp only [List.map_cons, List.map_map, snapshotRefTree, deltaRefTree, Function.comp_def, ← element_empty]

theorem writeElem_eq : ∀ e : Elem, writeElem e = writeNode 1 (elemTree0 e)
  | .publish .. => element_text ..
  | .update .. => element_text ..
  | .withdraw .. => element_empty ..

theorem writeFile_eq0 (root session : Bytes) (serial : Nat) (elems : List Elem) :
    writeFile root session serial elems = writeDoc (fileTree0 root session serial elems) := by
  unfold writeFile writeDoc fileTree0
  rw [← element_children, List.map_map]
  congr 2
  exact List.map_congr_left fun e _ => writeElem_eq e

theorem writeFile_eq (root session : Bytes) (serial : Nat) (elems : List Elem)
    (hne : ∀ e ∈ elems, match e with | .publish _ d => d ≠ [] | .update _ _ d => d ≠ [] | .withdraw _ _ => True) :
    writeFile root session serial elems = writeDoc (fileTree root session serial elems) := by
  rw [writeFile_eq0, fileTree0, fileTree]
  congr 4
  refine List.map_congr_left fun e he => elemTree0_eq e ?_
  have := hne e he
  cases e <;> exact this


theorem escAttrs_ok {names : List Bytes} (h : ∀ n ∈ names, NameOk n) {attrs : List (Bytes × Bytes)}
    (hn : attrs.map (·.1) = names) : AttrsOk (escAttrs attrs) := by
  intro a ha
  obtain ⟨b, hb, rfl⟩ := List.mem_map.mp ha
  exact ⟨h _ (hn ▸ List.mem_map.mpr ⟨b, hb, rfl⟩), escapeAttr_safe b.2⟩

theorem headAttrs_ok (session : Bytes) (serial : Nat) :
    AttrsOk (escAttrs (headAttrs session serial)) :=
  escAttrs_ok (names := [sXmlns, sVersion, sSessionId, sSerial]) (by decide) rfl

theorem notificationTree_reads (n : Notification) : Reads (notificationTree n) (notificationTree n) :=
  .node (by decide) (headAttrs_ok _ _) <| .cons
    (.leaf (by decide) (escAttrs_ok (names := [sUri, sHash]) (by decide) rfl))
    (.map _ _ _ fun _ _ => .leaf (by decide) (escAttrs_ok (names := [sSerial, sUri, sHash]) (by decide) rfl))

theorem elemTree0_reads : ∀ e : Elem, Reads (elemTree0 e) (elemTree e)
  | .publish _ d => .b64 (by decide) (escAttrs_ok (names := [sUri]) (by decide) rfl) d
  | .update _ _ d => .b64 (by decide) (escAttrs_ok (names := [sUri, sHash]) (by decide) rfl) d
  | .withdraw .. => .leaf (by decide) (escAttrs_ok (names := [sUri, sHash]) (by decide) rfl)

theorem fileTree0_reads (root session : Bytes) (serial : Nat) (elems : List Elem) (hroot : NameOk root) :
    Reads (fileTree0 root session serial elems) (fileTree root session serial elems) :=
  .node hroot (headAttrs_ok _ _) (.map _ _ _ fun e _ => elemTree0_reads e)


theorem notification_read_back (n : Notification) :
    parseDoc (writeNotification n) = some (notificationTree n) :=
  writeNotification_eq n ▸ (notificationTree_reads n).parse

theorem file_read_back_all (root session : Bytes) (serial : Nat) (elems : List Elem) (hroot : NameOk root) :
    parseDoc (writeFile root session serial elems) = some (fileTree root session serial elems) :=
  writeFile_eq0 .. ▸ (fileTree0_reads root session serial elems hroot).parse

theorem file_read_back (root session : Bytes) (serial : Nat) (elems : List Elem) (hroot : NameOk root)
    (hd : ∀ e ∈ elems, e.NonEmpty) :
    parseDoc (writeFile root session serial elems) = some (fileTree root session serial elems) :=
  file_read_back_all root session serial elems hroot

/-- what the writer emits for an empty object, as a tree (not well-formed: `TextOk []` is false) -/
theorem writeElem_empty_eq (uri : Bytes) :
    writeElem (.publish uri []) =
      writeNode 1 (.elem sPublish (escAttrs [(sUri, uri)]) (some (.cons (.text []) .nil))) ∧
    ¬ TextOk [] :=
  ⟨element_text .., fun h => h.1 rfl⟩

theorem writeElem_empty_ne : writeElem (.publish [] []) ≠ writeNode 1 (elemTree (.publish [] [])) := by
  decide


theorem decimal_inj (a b : Nat) (h : decimal a = decimal b) : a = b :=
  Nat.repr_injective (utf8_octets_inj h)

theorem hexDigit_inj (a b : Nat) (h : hexDigit a = hexDigit b) : a = b := by
  unfold hexDigit at h
  split at h <;> split at h <;> omega

theorem hexOf_cons (x : Nat) (xs : Bytes) :
    hexOf (x :: xs) = hexDigit (x / 16) :: hexDigit (x % 16) :: hexOf xs := rfl

theorem hexOf_inj : ∀ (a b : Bytes), hexOf a = hexOf b → a = b
  | [], [], _ => rfl
  | [], y :: ys, h => by rw [hexOf_cons] at h; cases h
  | x :: xs, [], h => by rw [hexOf_cons] at h; cases h
  | x :: xs, y :: ys, h => by
    rw [hexOf_cons, hexOf_cons] at h
    injection h with h1 h
    injection h with h2 h
    have := hexDigit_inj _ _ h1
    have := hexDigit_inj _ _ h2
    rw [hexOf_inj xs ys h]
    congr 1
    omega

/-- the object is octets: Base64 is injective on those only -/
def Elem.Octets : Elem → Prop
  | .publish _ d => ∀ x ∈ d, x < 256
  | .update _ _ d => ∀ x ∈ d, x < 256
  | .withdraw _ _ => True

theorem dataKids_inj (a b : Bytes) (ha : ∀ x ∈ a, x < 256) (hb : ∀ x ∈ b, x < 256)
    (h : dataKids a = dataKids b) : a = b := by
  unfold dataKids at h
  split at h <;> split at h
  · rename_i h1 h2; rw [h1, h2]
  · cases h
  · cases h
  · injection h with h _
    injection h with h
    exact b64Encode_inj a b ha hb h

theorem elemTree_inj (a b : Elem) (ha : a.Octets) (hb : b.Octets) (h : elemTree a = elemTree b) : a = b := by
  -- equal trees have equal attribute lists and bodies; `publish` and `update` differ in the number of
  -- attributes, `withdraw` from both in having no body
  cases a <;> cases b <;>
    simp only [elemTree, escAttrs, List.map_cons, List.map_nil, Node.elem.injEq, List.cons.injEq, Prod.mk.injEq,
      Option.some.injEq, reduceCtorEq, and_false, false_and, true_and, and_true] at h
  · rw [escapeAttr_inj _ _ h.1, dataKids_inj _ _ ha hb h.2]
  · rw [escapeAttr_inj _ _ h.1.1, hexOf_inj _ _ (escapeAttr_inj _ _ h.1.2), dataKids_inj _ _ ha hb h.2]
  · rw [escapeAttr_inj _ _ h.1, hexOf_inj _ _ (escapeAttr_inj _ _ h.2)]

theorem headAttrs_inj (s s' : Bytes) (n n' : Nat)
    (h : escAttrs (headAttrs s n) = escAttrs (headAttrs s' n')) : s = s' ∧ n = n' := by
  simp only [headAttrs, escAttrs, List.map_cons, List.map_nil, List.cons.injEq, Prod.mk.injEq, true_and,
    and_true] at h
  exact ⟨escapeAttr_inj _ _ h.1, decimal_inj _ _ (escapeAttr_inj _ _ h.2)⟩

theorem fileTree_inj (root root' session session' : Bytes) (serial serial' : Nat) (elems elems' : List Elem)
    (ho : ∀ e ∈ elems, e.Octets) (ho' : ∀ e ∈ elems', e.Octets)
    (h : fileTree root session serial elems = fileTree root' session' serial' elems') :
    root = root' ∧ session = session' ∧ serial = serial' ∧ elems = elems' := by
  simp only [fileTree, Node.elem.injEq, Option.some.injEq] at h
  obtain ⟨h1, h2, h3⟩ := h
  obtain ⟨h4, h5⟩ := headAttrs_inj _ _ _ _ h2
  exact ⟨h1, h4, h5, Lists.map_inj_on elemTree Elem.Octets elemTree_inj _ _ ho ho' (Nodes.ofList_inj _ _ h3)⟩

theorem deltaRefTree_inj (a b : DeltaRef) (h : deltaRefTree a = deltaRefTree b) : a = b := by
  cases a with | mk n u g =>
  cases b with | mk n' u' g' =>
  simp only [deltaRefTree, escAttrs, List.map_cons, List.map_nil, Node.elem.injEq, List.cons.injEq,
    Prod.mk.injEq, true_and, and_true] at h
  rw [decimal_inj _ _ (escapeAttr_inj _ _ h.1), escapeAttr_inj _ _ h.2.1, hexOf_inj _ _ (escapeAttr_inj _ _ h.2.2)]

theorem notificationTree_inj (a b : Notification) (h : notificationTree a = notificationTree b) : a = b := by
  cases a with | mk s n u g ds =>
  cases b with | mk s' n' u' g' ds' =>
  simp only [notificationTree, Node.elem.injEq, Option.some.injEq, true_and] at h
  obtain ⟨h1, h2⟩ := h
  obtain ⟨h3, h4⟩ := headAttrs_inj _ _ _ _ h1
  have h5 := Nodes.ofList_inj _ _ h2
  simp only [snapshotRefTree, escAttrs, List.map_cons, List.map_nil, List.cons.injEq, Node.elem.injEq,
    Prod.mk.injEq, true_and, and_true] at h5
  obtain ⟨⟨h6, h7⟩, h8⟩ := h5
  rw [h3, h4, escapeAttr_inj _ _ h6, hexOf_inj _ _ (escapeAttr_inj _ _ h7),
    (List.map_inj_right deltaRefTree_inj).mp h8]

theorem writeNotification_injective (a b : Notification) (h : writeNotification a = writeNotification b) :
    a = b :=
  notificationTree_inj a b
    (inj_of_read (P := fun _ => True) (fun n _ => notification_read_back n) a b trivial trivial h)

theorem writeFile_injective (root root' session session' : Bytes) (serial serial' : Nat)
    (elems elems' : List Elem) (hroot : NameOk root) (hroot' : NameOk root')
    (ho : ∀ e ∈ elems, e.Octets) (ho' : ∀ e ∈ elems', e.Octets)
    (h : writeFile root session serial elems = writeFile root' session' serial' elems') :
    root = root' ∧ session = session' ∧ serial = serial' ∧ elems = elems' := by
  have h1 := file_read_back_all root' session' serial' elems' hroot'
  rw [← h, file_read_back_all root session serial elems hroot] at h1
  exact fileTree_inj _ _ _ _ _ _ _ _ ho ho' (Option.some.inj h1)


-- `hexOf` is word for word `PubMsg.hex`, whose range lemma this uses
theorem escapeAttr_hexOf (h : Bytes) : escapeAttr (hexOf h) = hexOf h :=
  escapeWith_eq_self _ fun c hc => by
    have := PubMsg.mem_hex_range h c hc
    exact replAttr_none (by omega) (by omega) (by omega) (by omega) (by omega)

theorem elemTree_publish_fields (uri d : Bytes) (hne : d ≠ []) (hd : ∀ x ∈ d, x < 256) :
    elemTree (.publish uri d) =
        .elem sPublish [(sUri, escapeAttr uri)] (some (.cons (.text (b64Encode d)) .nil)) ∧
      unescapeAll (escapeAttr uri) = some uri ∧ xmlB64Decode (b64Encode d) = some d := by
  refine ⟨?_, unescape_escapeAttr uri, xmlB64Decode_b64Encode d hd⟩
  simp only [elemTree, escAttrs, dataKids, if_neg hne, List.map_cons, List.map_nil]

theorem elemTree_update_fields (uri hash d : Bytes) (hne : d ≠ []) (hd : ∀ x ∈ d, x < 256) :
    elemTree (.update uri hash d) =
        .elem sPublish [(sUri, escapeAttr uri), (sHash, hexOf hash)] (some (.cons (.text (b64Encode d)) .nil)) ∧
      unescapeAll (escapeAttr uri) = some uri ∧ xmlB64Decode (b64Encode d) = some d ∧
      (∀ hash', hexOf hash' = hexOf hash → hash' = hash) := by
  refine ⟨?_, unescape_escapeAttr uri, xmlB64Decode_b64Encode d hd, fun _ h => hexOf_inj _ _ h⟩
  simp only [elemTree, escAttrs, dataKids, if_neg hne, List.map_cons, List.map_nil, escapeAttr_hexOf]

theorem elemTree_withdraw_fields (uri hash : Bytes) :
    elemTree (.withdraw uri hash) = .elem sWithdraw [(sUri, escapeAttr uri), (sHash, hexOf hash)] none ∧
      unescapeAll (escapeAttr uri) = some uri ∧ (∀ hash', hexOf hash' = hexOf hash → hash' = hash) := by
  refine ⟨?_, unescape_escapeAttr uri, fun _ h => hexOf_inj _ _ h⟩
  simp only [elemTree, escAttrs, List.map_cons, List.map_nil, escapeAttr_hexOf]

theorem elemTree_empty_fields (uri hash : Bytes) :
    elemTree (.publish uri []) = .elem sPublish [(sUri, escapeAttr uri)] (some .nil) ∧
    elemTree (.update uri hash []) = .elem sPublish [(sUri, escapeAttr uri), (sHash, hexOf hash)] (some .nil) := by
  constructor
  · simp only [elemTree, escAttrs, dataKids, if_true, List.map_cons, List.map_nil]
  · simp only [elemTree, escAttrs, dataKids, if_true, List.map_cons, List.map_nil, escapeAttr_hexOf]

theorem headAttrs_fields (session : Bytes) (serial : Nat) :
    escAttrs (headAttrs session serial) =
        [(sXmlns, ns), (sVersion, [49]), (sSessionId, escapeAttr session), (sSerial, escapeAttr (decimal serial))] ∧
      unescapeAll (escapeAttr session) = some session ∧
      unescapeAll (escapeAttr (decimal serial)) = some (decimal serial) ∧
      (∀ serial', decimal serial' = decimal serial → serial' = serial) := by
  refine ⟨?_, unescape_escapeAttr _, unescape_escapeAttr _, fun _ h => decimal_inj _ _ h⟩
  have h1 : escapeAttr ns = ns := by decide
  have h2 : escapeAttr [49] = [49] := by decide
  simp only [headAttrs, escAttrs, List.map_cons, List.map_nil, h1, h2]

theorem notificationTree_fields (n : Notification) :
    notificationTree n = .elem sNotification (escAttrs (headAttrs n.session n.serial))
      (some (Nodes.ofList (
        .elem sSnapshot [(sUri, escapeAttr n.snapshotUri), (sHash, hexOf n.snapshotHash)] none ::
        n.deltas.map fun d =>
          .elem sDelta [(sSerial, escapeAttr (decimal d.serial)), (sUri, escapeAttr d.uri), (sHash, hexOf d.hash)]
            none))) := by
  have hd : deltaRefTree = fun d => Node.elem sDelta
      [(sSerial, escapeAttr (decimal d.serial)), (sUri, escapeAttr d.uri), (sHash, hexOf d.hash)] none := by
    funext d
    simp only [deltaRefTree, escAttrs, List.map_cons, List.map_nil, escapeAttr_hexOf]
  simp only [notificationTree, snapshotRefTree, escAttrs, List.map_cons, List.map_nil, escapeAttr_hexOf, hd]

end Rpki.Rrdp

