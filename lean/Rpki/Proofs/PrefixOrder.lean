/-
Two aligned blocks whose sizes divide one another are nested or disjoint. Hence `covers` is inclusion of
address ranges, and `cmp` is the order of one number (`code`: family, last address, host-bit count).
-/
import Rpki.Proofs.PrefixLemmas
import Rpki.Proofs.NatLemmas
namespace Rpki.Prefix

theorem blocks (x y P Q : Nat) (hP : 0 < P) (hQ : 0 < Q) (hdiv : P ∣ Q) (hx : x % P = 0) (hy : y % Q = 0) :
    (x / Q * Q = y ∧ y ≤ x ∧ x + P ≤ y + Q) ∨ (x / Q * Q ≠ y ∧ x + P ≤ y) ∨ (x / Q * Q ≠ y ∧ y + Q ≤ x) := by
  have h1 := Nat.div_mul_le_self x Q
  have h2 := block_in x Q P hP hdiv hQ hx
  rw [← aligned_div_mul y Q hy]
  rcases Nat.lt_trichotomy (x / Q) (y / Q) with h | h | h
  · have := Nat.mul_le_mul_right Q h
    rw [Nat.succ_mul] at this
    exact .inr (.inl ⟨Nat.ne_of_lt (Nat.lt_of_lt_of_le (Nat.lt_add_of_pos_right hQ) this),
      Nat.le_trans h2 this⟩)
  · rw [h] at h1 h2 ⊢
    exact .inl ⟨rfl, h1, h2⟩
  · have := Nat.mul_le_mul_right Q h
    rw [Nat.succ_mul] at this
    exact .inr (.inr ⟨Nat.ne_of_gt (Nat.lt_of_lt_of_le (Nat.lt_add_of_pos_right hQ) this),
      Nat.le_trans this h1⟩)

/-- the mask test of `covers`, for a first prefix that is not the longer one, is inclusion of the ranges -/
theorem mask_iff_range {p q : Pfx} (hp : WF p) (hq : WF q) (hl : ¬ p.len > q.len) :
    p.bits = q.bits / 2 ^ hostBits p.len * 2 ^ hostBits p.len ↔ p.lo ≤ q.lo ∧ q.hi ≤ p.hi := by
  rw [← Nat.add_le_add_iff_right (m := q.hi) (n := 1), hp.hi_succ, hq.hi_succ]
  have hQ := Nat.two_pow_pos (hostBits q.len)
  have hdiv : 2 ^ hostBits q.len ∣ 2 ^ hostBits p.len :=
    Nat.pow_dvd_pow 2 (Nat.sub_le_sub_left (Nat.le_of_not_lt hl) 128)
  rcases blocks q.bits p.bits _ _ hQ (Nat.two_pow_pos _) hdiv hq.2.2 hp.2.2 with ⟨e, h1, h2⟩ | ⟨e, h⟩ | ⟨e, h⟩
  · exact iff_of_true e.symm ⟨h1, h2⟩
  · exact iff_of_false (fun h' => e h'.symm) fun h' =>
      Nat.lt_irrefl _ (Nat.lt_of_lt_of_le (Nat.lt_of_le_of_lt h'.1 (Nat.lt_add_of_pos_right hQ)) h)
  · exact iff_of_false (fun h' => e h'.symm) fun h' =>
      Nat.lt_irrefl _ (Nat.lt_of_lt_of_le (Nat.lt_of_le_of_lt h (Nat.lt_add_of_pos_right hQ)) h'.2)

/-- the special case of `covers` for two host prefixes says the same as the mask test -/
theorem eq_iff_mask {p q : Pfx} (hp : WF p) (hq : WF q) (hf : p.isV4 = q.isV4) (hl : p.len = q.len) :
    p = q ↔ p.bits = q.bits / 2 ^ hostBits p.len * 2 ^ hostBits p.len := by
  rw [hl, aligned_div_mul _ _ hq.2.2]
  have hfal := fal_inj hp hq hf hl
  refine ⟨fun h => h ▸ rfl, fun h => ?_⟩
  obtain ⟨pf, pb⟩ := p
  obtain ⟨qf, qb⟩ := q
  exact congr (congrArg Pfx.mk hfal) h

theorem covers_iff_range' (p q : Pfx) (hp : WF p) (hq : WF q) :
    covers p q = true ↔ p.isV4 = q.isV4 ∧ p.lo ≤ q.lo ∧ q.hi ≤ p.hi := by
  fun_cases covers p q
  case case1 hf => exact iff_of_false Bool.false_ne_true fun h => bne_iff_ne.1 hf h.1
  case case2 hl =>
    -- a longer first prefix is a smaller block
    have hlt := pow_lt_of_lt (hostBits_lt hl hp.len_le)
    refine iff_of_false Bool.false_ne_true fun h => ?_
    have h2 := Nat.add_le_add_right h.2.2 1
    rw [hp.hi_succ, hq.hi_succ] at h2
    exact Nat.lt_irrefl _ (Nat.lt_of_lt_of_le (Nat.add_lt_add_of_le_of_lt h.2.1 hlt) h2)
  all_goals
    have hf : p.isV4 = q.isV4 := Decidable.of_not_not fun h => ‹¬ (p.isV4 != q.isV4) = true› (bne_iff_ne.2 h)
    rw [decide_eq_true_eq, and_iff_right hf]
  case case3 hl _ h => rw [eq_iff_mask hp hq hf (h.1.trans h.2.symm)]; exact mask_iff_range hp hq hl
  case case4 hl _ _ => exact mask_iff_range hp hq hl
  case case5 hl _ h => rw [eq_iff_mask hp hq hf (h.1.trans h.2.symm)]; exact mask_iff_range hp hq hl
  case case6 hl _ _ => exact mask_iff_range hp hq hl

/-- family, last address, host-bit count as one number: `128 - len ≤ 128 < 256`, and `hi < 2 ^ 128` makes
`hi * 256 + (128 - len) < 2 ^ 137` -/
def code (p : Pfx) : Nat := (if p.isV4 then 0 else 1) * 2 ^ 137 + p.hi * 256 + (128 - p.len)

theorem compare_code (p q : Pfx) (hp : WF p) (hq : WF q) :
    compare (code p) (code q) = (compare (if p.isV4 then 0 else 1) (if q.isV4 then 0 else 1)).then
      ((compare p.hi q.hi).then (compare (hostBits p.len) (hostBits q.len))) := by
  have bound : ∀ r : Pfx, WF r → r.hi * 256 + (128 - r.len) < 2 ^ 137 := fun r hr => by
    have := hr.hi_lt; unfold A at this; omega
  unfold code
  rw [Nat.add_assoc, Nat.add_assoc, Arith.compare_mul_add (bound p hp) (bound q hq),
    Arith.compare_mul_add (by omega) (by omega)]
  rfl

/-- What `cmp` computes for a smaller block `[x, x+P)` against a larger one `[y, y+Q)` orders them by
their ends, the smaller block first on a tie. -/
theorem cmp_blocks (x y P Q : Nat) (hP : 0 < P) (hPQ : P < Q) (hdiv : P ∣ Q) (hx : x % P = 0)
    (hy : y % Q = 0) :
    (if x / Q * Q = y then .lt else compare x y) = (compare (x + P) (y + Q)).then .lt := by
  have hQ := Nat.lt_trans hP hPQ
  rcases blocks x y P Q hP hQ hdiv hx hy with ⟨e, _, h⟩ | ⟨e, h⟩ | ⟨e, h⟩
  · rw [if_pos e]
    rcases Nat.lt_or_eq_of_le h with l | l
    · rw [Nat.compare_eq_lt.2 l]; rfl
    · rw [Nat.compare_eq_eq.2 l]; rfl
  · rw [if_neg e, Nat.compare_eq_lt.2 (Nat.lt_of_lt_of_le (Nat.lt_add_of_pos_right hP) h),
      Nat.compare_eq_lt.2 (Nat.lt_of_le_of_lt h (Nat.lt_add_of_pos_right hQ))]
    rfl
  · rw [if_neg e, Nat.compare_eq_gt.2 (Nat.lt_of_lt_of_le (Nat.lt_add_of_pos_right hQ) h),
      Nat.compare_eq_gt.2 (Nat.lt_of_le_of_lt h (Nat.lt_add_of_pos_right hP))]
    rfl

theorem cmp_blocks_swap (x y P Q : Nat) (hP : 0 < P) (hPQ : P < Q) (hdiv : P ∣ Q) (hx : x % P = 0)
    (hy : y % Q = 0) :
    (if y = x / Q * Q then .gt else compare y x) = (compare (y + Q) (x + P)).then .gt := by
  have := congrArg Ordering.swap (cmp_blocks x y P Q hP hPQ hdiv hx hy)
  rw [Ordering.swap_then, Nat.compare_swap, apply_ite Ordering.swap, Nat.compare_swap] at this
  simp only [eq_comm (a := y)]
  exact this

theorem cmp_code (p q : Pfx) (hp : WF p) (hq : WF q) : cmp p q = compare (code p) (code q) := by
  rw [compare_code p q hp hq]
  unfold cmp
  cases p.isV4 <;> cases q.isV4 <;> try rfl
  all_goals
    dsimp only
    rw [Nat.compare_eq_eq.2 rfl, Ordering.eq_then, ← Arith.compare_add_right p.hi q.hi 1, hp.hi_succ,
      hq.hi_succ]
    have hP := Nat.two_pow_pos (hostBits p.len)
    have hQ := Nat.two_pow_pos (hostBits q.len)
    rcases Nat.lt_trichotomy p.len q.len with hl | hl | hl
    · have hs := hostBits_lt hl hq.len_le
      rw [if_neg (Nat.ne_of_lt hl), Nat.min_eq_left (Nat.le_of_lt hl), aligned_div_mul _ _ hp.2.2,
        Nat.compare_eq_gt.2 hl, Nat.compare_eq_gt.2 hs]
      exact cmp_blocks_swap q.bits p.bits _ _ hQ (pow_lt_of_lt hs) (Nat.pow_dvd_pow 2 (Nat.le_of_lt hs))
        hq.2.2 hp.2.2
    · rw [if_pos hl, hl, Nat.compare_eq_eq.2 rfl, Ordering.then_eq, Arith.compare_add_right]
    · have hs := hostBits_lt hl hp.len_le
      rw [if_neg (Nat.ne_of_gt hl), Nat.min_eq_right (Nat.le_of_lt hl), aligned_div_mul q.bits _ hq.2.2,
        Nat.compare_eq_lt.2 hl, Nat.compare_eq_lt.2 hs]
      exact cmp_blocks p.bits q.bits _ _ hP (pow_lt_of_lt hs) (Nat.pow_dvd_pow 2 (Nat.le_of_lt hs))
        hp.2.2 hq.2.2

end Rpki.Prefix
