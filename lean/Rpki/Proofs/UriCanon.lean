/-
`canonical_module` of a valid rsync URI: it renders the canonical scheme, the authority in lower case, the
module name and an empty path (`Layout.canon`), so it is valid, in the same module and its own canonical
module; two are equal exactly for URIs of the same module whose canonical schemes are written alike
(`canonicalModule_eq_iff`: the scheme keeps its case unless the authority is rewritten).
-/
import Rpki.Proofs.UriRsyncRel
namespace Rpki.Uri

/-- the scheme of the canonical module: in lower case when the authority is rewritten, else as written -/
def Rsync.canonScheme (s a : Bytes) : Bytes := if a.any (fun c => 65 ≤ c ∧ c ≤ 90) then rsyncScheme else s

theorem Rsync.Layout.canon {u : Rsync} {s a m p : Bytes} (L : u.Layout s a m p) :
    (Rsync.mk u.canonicalModule u.moduleStart u.pathStart).Layout (Rsync.canonScheme s a) (a.map toLower) m
      [] := by
  have hms : u.moduleStart = 8 + (a.map toLower).length + 1 := by
    rw [List.length_map]; exact L.moduleStart
  unfold Rsync.canonicalModule Rsync.canonScheme
  rw [L.authority_eq, L.moduleName_eq]
  by_cases hup : a.any (fun c => 65 ≤ c ∧ c ≤ 90) = true
  · rw [if_pos hup, if_pos hup]
    exact ⟨by simp only [List.append_assoc, List.cons_append, List.nil_append]; rfl, rfl, hms, L.pathStart⟩
  · rw [if_neg hup, if_neg hup]
    refine ⟨?_, L.sch_length, hms, L.pathStart⟩
    show u.bytes.take u.pathStart = _
    rw [L.module_eq, map_toLower_of_no_upper _ (Bool.eq_false_iff.2 hup)]
    simp only [List.append_assoc, List.cons_append, List.nil_append]

theorem Rsync.Valid.canon {s a m p : Bytes} (V : Rsync.Valid s a m p) :
    Rsync.Valid (Rsync.canonScheme s a) (a.map toLower) m [] := by
  have ha := V.ascii
  simp only [checkUriAscii_append, Bool.and_eq_true] at ha
  have hs : (Rsync.canonScheme s a).map toLower = rsyncScheme ∧ checkUriAscii (Rsync.canonScheme s a) = true := by
    unfold Rsync.canonScheme
    split
    · exact ⟨rsyncScheme_lower, by decide⟩
    · exact ⟨V.scheme, ha.1⟩
  refine ⟨hs.1, ?_, goodSeg_map_toLower V.auth_good, V.md_good, slash_not_mem_map_toLower V.auth_noslash,
    V.md_noslash, rfl⟩
  simp only [checkUriAscii_append, Bool.and_eq_true]
  exact ⟨hs.2, checkUriAscii_map_toLower _ ha.2.1, ha.2.2.1, rfl⟩

theorem Rsync.Inv.canonicalModule_inv {u : Rsync} (h : u.Inv) :
    (Rsync.mk u.canonicalModule u.moduleStart u.pathStart).Inv :=
  h.layout.canon.inv h.valid.canon

theorem Rsync.Inv.canonicalModule_eqModule {u : Rsync} (h : u.Inv) :
    (Rsync.mk u.canonicalModule u.moduleStart u.pathStart).eqModule u = true :=
  (h.layout.canon.eqModule_iff h.layout).2
    ⟨h.valid.canon.scheme.trans h.valid.scheme.symm, map_toLower_idem _, rfl⟩

theorem Rsync.Inv.canonicalModule_shape {u : Rsync} (h : u.Inv) :
    u.canonicalModule.length = u.pathStart ∧
    u.canonicalModule.drop (8 + u.authority.length) = slash :: (u.moduleName ++ [slash]) ∧
    slice u.canonicalModule 8 (8 + u.authority.length) = u.authority.map toLower := by
  have L := h.layout
  have Lc := L.canon
  refine ⟨?_, ?_, ?_⟩
  · rw [show u.canonicalModule = _ from Lc.cut_ps.1, List.append_nil]
    exact Lc.cut_ps.2
  · have := Lc.drop_auth
    rwa [List.length_map] at this
  · have := Lc.authority_eq
    rwa [Rsync.authority, L.moduleStart, Nat.add_sub_cancel] at this

/-- The canonical value is its own canonical module: its authority is already in lower case, so the
text up to the path is kept, and that is all of it. -/
theorem Rsync.Inv.canonicalModule_idem {u : Rsync} (hi : u.Inv) :
    (Rsync.mk u.canonicalModule u.moduleStart u.pathStart).canonicalModule = u.canonicalModule := by
  rw [Rsync.canonicalModule, hi.layout.canon.authority_eq, any_upper_map_toLower, if_neg (by decide)]
  show u.canonicalModule.take u.pathStart = u.canonicalModule
  rw [← hi.canonicalModule_shape.1]
  exact List.take_length

theorem Rsync.canonicalModule_idem (b : Bytes) (u v : Rsync) (h : Rsync.fromBytes b = .ok u)
    (hv : Rsync.fromBytes u.canonicalModule = .ok v) : v.canonicalModule = u.canonicalModule := by
  have hi := (Rsync.inv_of_fromBytes b u h).2
  rw [Rsync.fromBytes_mk _ _ _ hi.canonicalModule_inv] at hv
  cases hv
  exact hi.canonicalModule_idem

theorem Rsync.canonicalModule_eq_iff {u o : Rsync} (hu : u.Inv) (ho : o.Inv) :
    u.canonicalModule = o.canonicalModule ↔ u.eqModule o = true ∧
      Rsync.canonScheme (u.bytes.take 8) u.authority = Rsync.canonScheme (o.bytes.take 8) o.authority := by
  have L := hu.layout
  have L' := ho.layout
  have Lc := L.canon
  have Lc' := L'.canon
  rw [L.eqModule_iff L', hu.valid.scheme, ho.valid.scheme, show u.canonicalModule = _ from Lc.bytes,
    show o.canonicalModule = _ from Lc'.bytes]
  constructor
  · intro h
    have ⟨h1, h2⟩ := List.append_inj h (Lc.sch_length.trans Lc'.sch_length.symm)
    have ⟨h3, h4⟩ := first_slash_unique _ _ _ _ (slash_not_mem_map_toLower hu.valid.auth_noslash)
      (slash_not_mem_map_toLower ho.valid.auth_noslash) h2
    exact ⟨⟨rfl, h3, List.append_cancel_right h4⟩, h1⟩
  · rintro ⟨⟨-, h3, h4⟩, h1⟩
    rw [h1, h3, h4]

-- the two URIs of `C12.canonical_module_keeps_scheme_case`
def exUpperScheme : Bytes := [82, 83, 89, 78, 67, 58, 47, 47, 104, 47, 109, 47]     -- "RSYNC://h/m/"
def exLowerScheme : Bytes := [114, 115, 121, 110, 99, 58, 47, 47, 104, 47, 109, 47] -- "rsync://h/m/"

end Rpki.Uri
