/-
  The vocabulary of the certificate-path theorems (C01, C02): canonical claims and results, containment of validated
  resources, validation down a chain of CA certificates, and the two notions their proofs turn on — `Under`, the
  invariant of a validation path, and `Issued`, what every validator of an issued certificate establishes.
-/
import Rpki.Proofs.CertDerLemmas
namespace Rpki.Props.C01
open Rpki.Chain Rpki.Cert

/-- the claimed blocks of a decoded certificate are canonical chains (they are produced by
`from_iter`; `claimsCanon_of_decoded` below has it for every decoded certificate) -/
def ClaimsCanon (f : Facts) : Prop :=
  (∀ c, f.v4 = .blocks c → Canon maxV4 c) ∧ (∀ c, f.v6 = .blocks c → Canon maxV6 c) ∧
  (∀ c, f.asn = .blocks c → Canon maxAs c)

def RC.Canon (r : RC) : Prop := Chain.Canon maxV4 r.v4 ∧ Chain.Canon maxV6 r.v6 ∧ Chain.Canon maxAs r.asn

def RC.Sub (r i : RC) : Prop :=
  (∀ x, mem r.v4 x → mem i.v4 x) ∧ (∀ x, mem r.v6 x → mem i.v6 x) ∧ (∀ x, mem r.asn x → mem i.asn x)

/-- validation down a chain of CA certificates (each at its own evaluation time) -/
def validateChain (rc : RC) : List (Facts × Int) → Option RC
  | [] => some rc
  | (f, now) :: rest => match validateCa f rc now with
    | none => none
    | some r => validateChain r rest

theorem RC.Sub.refl (r : RC) : RC.Sub r r := ⟨fun _ h => h, fun _ h => h, fun _ h => h⟩

theorem RC.Sub.trans {a b c : RC} (h1 : RC.Sub a b) (h2 : RC.Sub b c) : RC.Sub a c :=
  ⟨fun x hx => h2.1 x (h1.1 x hx), fun x hx => h2.2.1 x (h1.2.1 x hx), fun x hx => h2.2.2 x (h1.2.2 x hx)⟩

/-- What holds of every validated certificate on a path that starts at `root`: its resources are canonical chains
inside `root`'s.  The trust anchor establishes it, every CA, EE or signed-object step keeps it. -/
def Under (root r : RC) : Prop := RC.Canon r ∧ RC.Sub r root

theorem Under.root {r : RC} (h : RC.Canon r) : Under r r := ⟨h, RC.Sub.refl r⟩

theorem Under.trans {root i r : RC} (hi : Under root i) (h : Under i r) : Under root r := ⟨h.1, h.2.trans hi.2⟩

/-- What acceptance by any validator of an issued certificate (CA, EE, router) establishes: a positive signature
verdict, a time inside the window, the issuer's key identifier, the certificate's own. -/
def Issued (f : Facts) (i : RC) (now : Int) : Prop :=
  f.sigOk = true ∧ f.validity.nb ≤ now ∧ now ≤ f.validity.na ∧ f.aki = some i.ski ∧ f.ski = f.keyId

theorem not_issued {f : Facts} {i : RC} {now : Int}
    (hbad : f.sigOk = false ∨ now < f.validity.nb ∨ f.validity.na < now ∨ f.aki ≠ some i.ski ∨ f.ski ≠ f.keyId) :
    ¬ Issued f i now := by
  rintro ⟨a, b, c, d, e⟩
  rcases hbad with h | h | h | h | h
  · rw [a] at h; cases h
  · exact absurd b (Int.not_le.2 h)
  · exact absurd c (Int.not_le.2 h)
  · exact h d
  · exact h e

/-- Facts whose three claims are those of a decoded certificate, in whatever mode it was read and inspected, have
canonical claims.  The bounds of the two sides (`IpDer.maxAddr` / `maxV6`, `AsDer.maxAs` / `maxAs`, `2 ^ 32 - 1` / `maxV4`)
are constants of different modules that agree by unfolding. -/
theorem claimsCanon_of_decoded {f : Facts} {d : CertDer.Decoded} (e4 : f.v4 = CertDer.shiftV4 d.v4) (e6 : f.v6 = d.v6)
    (ea : f.asn = d.asn)
    (h : CertDer.ClaimCanon IpDer.maxAddr d.v4 ∧ CertDer.ClaimCanon IpDer.maxAddr d.v6 ∧
      CertDer.ClaimCanon AsDer.maxAs d.asn) : ClaimsCanon f :=
  ⟨e4 ▸ (CertDer.claimCanon_iff _ _).1 (CertDer.shiftV4_canon d.v4 h.1), e6 ▸ (CertDer.claimCanon_iff _ _).1 h.2.1,
   ea ▸ (CertDer.claimCanon_iff _ _).1 h.2.2⟩

end Rpki.Props.C01
