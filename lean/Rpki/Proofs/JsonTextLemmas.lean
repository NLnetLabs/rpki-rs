/-
  The JSON text of a SLURM file (`Rpki/Model/JsonText.lean`): the reference reader inverts the writer —
  strings with their escapes, numbers, nested arrays and objects — for every tree.
-/
import Rpki.Model.JsonText
import Rpki.Proofs.Digits
import Rpki.Proofs.ListLemmas
namespace Rpki.JsonText
open Rpki.Slurm Rpki.ResText

theorem lexStr_step (c : Nat) (r acc : List Nat) :
    lexStr (escByte c ++ r) acc = lexStr r (c :: acc) := by
  -- the paths of `escByte`: seven two-character escapes, then `\u00xx` (8) and the octet itself (9)
  fun_cases escByte c
  case case8 h =>
    rw [lexStr.eq_def]
    simp [hexVal_hexDigit (c / 16) (by omega), hexVal_hexDigit (c % 16) (by omega), Nat.div_add_mod']
  case case9 h1 h2 _ _ _ _ _ h =>
    rw [lexStr.eq_def]
    simp [h1, h2, h]
  all_goals subst c; rw [lexStr.eq_def]; rfl

theorem lexStr_escape : ∀ (s rest acc : List Nat),
    lexStr (escape s ++ 34 :: rest) acc = some (acc.reverse ++ s, rest) := by
  intro s
  induction s with
  | nil => intro rest acc; rw [lexStr.eq_def]; simp [escape]
  | cons c r ih =>
    intro rest acc
    rw [escape, List.append_assoc, lexStr_step, ih, List.reverse_cons, List.append_assoc]
    rfl

theorem quote_append (s rest : List Nat) : quote s ++ rest = 34 :: (escape s ++ 34 :: rest) := by
  rw [quote, List.cons_append, List.append_assoc, List.singleton_append]

theorem lexStr_escape_nil (s rest : List Nat) : lexStr (escape s ++ 34 :: rest) [] = some (s, rest) :=
  lexStr_escape s rest []

theorem keyName_head : ∀ k ∈ knownKeys, (keyName k).head? ≠ some 120 := by decide

theorem keyOfName_keyName (k : Key) : keyOfName (keyName k) = some k := by
  cases k with
  | other n =>
    have h : knownKeys.find? (fun k => keyName k = 120 :: 45 :: decimal n) = none := by
      rw [List.find?_eq_none]
      intro k hk e
      rw [decide_eq_true_eq] at e
      exact keyName_head k hk (by rw [e]; rfl)
    rw [keyName, keyOfName, h]
    simp only [decimal_value, if_true]
  | _ => rfl

def NoDigitHead (rest : (List Nat)) : Prop := ∀ c r, rest = c :: r → isDigit c = false

theorem takeWhile_digits (d rest : List Nat) (hd : d.all isDigit = true) (hr : NoDigitHead rest) :
    (d ++ rest).takeWhile isDigit = d :=
  Lists.takeWhile_append_of_head (List.all_eq_true.1 hd) fun c e =>
    let ⟨r, er⟩ := List.head?_eq_some_iff.1 e
    hr c r er

theorem noDigit_of (c : Nat) (r : List Nat) (h : isDigit c = false) : NoDigitHead (c :: r) := by
  intro c' r' e; cases e; exact h

theorem render_ne_nil (j : Json) : render j ≠ [] := by
  cases j with
  | num n => exact (decimal_digits n).1
  | bool b => cases b <;> exact List.cons_ne_nil _ _
  | _ => exact List.cons_ne_nil _ _

theorem parseVal_quote (f : Nat) (s rest : List Nat) :
    parseVal (f + 1) (quote s ++ rest) = some (.str s, rest) := by
  rw [quote_append]
  show (lexStr _ []).map _ = _
  rw [lexStr_escape_nil]
  rfl

/-- a digit is none of the octets a literal, a string, an array or an object starts with -/
theorem digit_not_opener {c : Nat} (h : isDigit c = true) :
    c ≠ 110 ∧ c ≠ 116 ∧ c ≠ 102 ∧ c ≠ 34 ∧ c ≠ 91 ∧ c ≠ 123 := by
  have hc : 48 ≤ c ∧ c ≤ 57 := by simpa [isDigit] using h
  omega

theorem parseVal_digit (f c : Nat) (b : List Nat) (h : isDigit c = true) :
    parseVal (f + 1) (c :: b) = some (.num ((digitsOf (c :: b)).foldl (fun acc x => acc * 10 + (x - 48)) 0),
      (c :: b).drop (digitsOf (c :: b)).length) := by
  obtain ⟨h1, h2, h3, h4, h5, h6⟩ := digit_not_opener h
  show (if c = 110 then _ else _) = _
  rw [if_neg h1, if_neg h2, if_neg h3, if_neg h4, if_neg h5, if_neg h6, if_pos h]

theorem parseVal_num (f n : Nat) (rest : List Nat) (hr : NoDigitHead rest) :
    parseVal (f + 1) (decimal n ++ rest) = some (.num n, rest) := by
  obtain ⟨c, r, e, h1, h2, _⟩ := decimal_head n
  have hc : isDigit c = true := by simp [isDigit, h1, h2]
  rw [e, List.cons_append, parseVal_digit f c _ hc, ← List.cons_append, ← e, digitsOf,
    takeWhile_digits _ rest (decimal_all_isDigit n) hr, decimal_value, List.drop_left]

theorem parseElems_bracket (f : Nat) (r : List Nat) (acc : List Json) : parseElems f (93 :: r) acc = none := by
  cases f with
  | zero => rfl
  | succ f => rw [parseElems, show parseVal f (93 :: r) = none by cases f <;> rfl]

theorem parseVal_arr (f : Nat) (b r : List Nat) (l : List Json) (h : parseElems f b [] = some (l, r)) :
    parseVal (f + 1) (91 :: b) = some (.arr l, r) := by
  show (match b with | 93 :: r' => some (Json.arr [], r') | _ => (parseElems f b []).map _) = _
  split
  · rw [parseElems_bracket] at h; cases h
  · rw [h]; rfl

theorem parseVal_obj (f : Nat) (b r : List Nat) (l : List (Key × Json)) (h : parseMembers f b [] = some (l, r)) :
    parseVal (f + 1) (123 :: b) = some (.obj l, r) := by
  show (match b with | 125 :: r' => some (Json.obj [], r') | _ => (parseMembers f b []).map _) = _
  split
  · next r' =>
    rw [show parseMembers f (125 :: r') [] = none by cases f <;> rfl] at h; cases h
  · rw [h]; rfl

theorem parseMembers_last (f : Nat) (k : Key) (b r : List Nat) (acc : List (Key × Json)) (v : Json)
    (h : parseVal f b = some (v, 125 :: r)) :
    parseMembers (f + 1) (quote (keyName k) ++ 58 :: b) acc = some (((k, v) :: acc).reverse, r) := by
  simp only [quote_append, parseMembers, lexStr_escape_nil, keyOfName_keyName, h]

theorem parseMembers_more (f : Nat) (k : Key) (b r : List Nat) (acc : List (Key × Json)) (v : Json)
    (h : parseVal f b = some (v, 44 :: r)) :
    parseMembers (f + 1) (quote (keyName k) ++ 58 :: b) acc = parseMembers f r ((k, v) :: acc) := by
  simp only [quote_append, parseMembers, lexStr_escape_nil, keyOfName_keyName, h]

-- `w`, `w'`: the white space a `JsonRead.Layout` may put around the separator; none in the compact form
theorem length_parts {a w w' b : List Nat} {c f : Nat} (h : (a ++ (w ++ c :: (w' ++ b))).length ≤ f + 1) :
    a.length ≤ f ∧ b.length ≤ f := by
  simp only [List.length_append, List.length_cons] at h; omega

theorem renderArr_ne_nil : ∀ l, renderArr l ≠ []
  | [] => List.cons_ne_nil _ _
  | [_] => List.append_ne_nil_of_right_ne_nil _ (List.cons_ne_nil _ _)
  | _ :: _ :: _ => List.append_ne_nil_of_right_ne_nil _ (List.cons_ne_nil _ _)

theorem renderObj_ne_nil : ∀ l, renderObj l ≠ []
  | [] => List.cons_ne_nil _ _
  | [_] => List.cons_ne_nil _ _
  | _ :: _ :: _ => List.cons_ne_nil _ _

/-- Values, nonempty element lists and nonempty member lists at once, by induction on the fuel `f` (at least the
length of the text; every step gives one unit less to a proper part).  `NoDigitHead rest`: a number ends where the
digits end, so what follows must not begin with one; inside a text it is `,`, `]` or `}`. -/
theorem parse_render_fuel (f : Nat) :
    (∀ j rest, (render j).length ≤ f → NoDigitHead rest → parseVal f (render j ++ rest) = some (erase j, rest)) ∧
    (∀ x xs rest acc, (renderArr (x :: xs)).length ≤ f →
      parseElems f (renderArr (x :: xs) ++ rest) acc = some (acc.reverse ++ eraseArr (x :: xs), rest)) ∧
    (∀ k v xs rest acc, (renderObj ((k, v) :: xs)).length ≤ f →
      parseMembers f (renderObj ((k, v) :: xs) ++ rest) acc = some (acc.reverse ++ eraseObj ((k, v) :: xs), rest)) := by
  induction f with
  | zero =>
    exact ⟨fun j _ hf => absurd hf (Lists.not_length_le_zero (render_ne_nil j)),
      fun _ _ _ _ hf => absurd hf (Lists.not_length_le_zero (renderArr_ne_nil _)),
      fun _ _ _ _ _ hf => absurd hf (Lists.not_length_le_zero (renderObj_ne_nil _))⟩
  | succ f ih =>
    obtain ⟨ihv, ihe, ihm⟩ := ih
    refine ⟨fun j rest hf hr => ?_, fun x xs rest acc hf => ?_, fun k v xs rest acc hf => ?_⟩
    · cases j with
      | null => rfl
      | bool b => cases b <;> rfl
      | num n => exact parseVal_num f n rest hr
      | str s => exact parseVal_quote f s rest
      | pfx p => exact parseVal_quote f _ rest
      | bytes b => exact parseVal_quote f _ rest
      | arr l =>
        cases l with
        | nil => rfl
        | cons x xs => exact parseVal_arr f _ _ _ (ihe x xs rest [] (Nat.le_of_succ_le_succ hf))
      | obj l =>
        cases l with
        | nil => rfl
        | cons x xs => exact parseVal_obj f _ _ _ (ihm x.1 x.2 xs rest [] (Nat.le_of_succ_le_succ hf))
    · cases xs with
      | nil =>
        have hx := ihv x (93 :: rest) (length_parts (w := []) (w' := []) hf).1 (noDigit_of 93 rest rfl)
        rw [renderArr, List.append_assoc, List.singleton_append, parseElems, hx]
        simp only [List.reverse_cons]
        rfl
      | cons y r =>
        have hx := ihv x (44 :: (renderArr (y :: r) ++ rest)) (length_parts (w := []) (w' := []) hf).1 (noDigit_of 44 _ rfl)
        rw [renderArr, List.append_assoc, List.cons_append, parseElems, hx]
        simp only [ihe y r rest _ (length_parts (w := []) (w' := []) hf).2, List.reverse_cons, List.append_assoc]
        rfl
    · cases xs with
      | nil =>
        have hf' := Nat.le_succ_of_le (length_parts (w := []) (w' := []) hf).2
        have hv := ihv v (125 :: rest) (length_parts (w := []) (w' := []) hf').1 (noDigit_of 125 rest rfl)
        rw [renderObj, List.append_assoc, List.cons_append, List.append_assoc, List.singleton_append,
          parseMembers_last f _ _ _ _ _ hv, List.reverse_cons]
        rfl
      | cons y r =>
        have hf' := Nat.le_succ_of_le (length_parts (w := []) (w' := []) hf).2
        have hv := ihv v (44 :: (renderObj (y :: r) ++ rest)) (length_parts (w := []) (w' := []) hf').1 (noDigit_of 44 _ rfl)
        rw [renderObj, List.append_assoc, List.cons_append, List.append_assoc, List.cons_append,
          parseMembers_more f _ _ _ _ _ hv,
          ihm y.1 y.2 r rest _ (length_parts (w := []) (w' := []) hf').2, List.reverse_cons, List.append_assoc]
        rfl

theorem parseVal_render : ∀ (j : Json) (f : Nat) (rest : (List Nat)), (render j).length ≤ f → NoDigitHead rest →
    parseVal f (render j ++ rest) = some (erase j, rest) :=
  fun j f rest => (parse_render_fuel f).1 j rest

theorem parseElems_render : ∀ (l : List Json) (_ : l ≠ []) (f : Nat) (rest : (List Nat)) (acc : List Json),
    (renderArr l).length ≤ f →
    parseElems f (renderArr l ++ rest) acc = some (acc.reverse ++ eraseArr l, rest)
  | [], hne, _, _, _ => absurd rfl hne
  | x :: xs, _, f, rest, acc => (parse_render_fuel f).2.1 x xs rest acc

theorem parseMembers_render : ∀ (l : List (Key × Json)) (_ : l ≠ []) (f : Nat) (rest : (List Nat))
    (acc : List (Key × Json)), (renderObj l).length ≤ f →
    parseMembers f (renderObj l ++ rest) acc = some (acc.reverse ++ eraseObj l, rest)
  | [], hne, _, _, _ => absurd rfl hne
  | (k, v) :: xs, _, f, rest, acc => (parse_render_fuel f).2.2 k v xs rest acc

theorem parse_render (j : Json) : parse (render j) = some (erase j) := by
  unfold parse
  have := parseVal_render j ((render j).length + 1) [] (by omega) (by intro c r h; cases h)
  simp only [List.append_nil] at this
  rw [this]

end Rpki.JsonText
