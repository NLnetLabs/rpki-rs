/-
  The signed-object decoder model (`Model/CmsDer.lean`): the signed attributes of a decoded object parse to the content
  type, digest and time that were returned, and its certificate is what `takeCert` reads from a string of octets.
-/
import Rpki.Proofs.CertDerLemmas
namespace Rpki.CmsDer
open Rpki.Der Rpki.CertDer

attribute [local irreducible] takeConsM takePrimM

theorem skipU8_subM (ber : Bool) (n : Nat) (b r : Bytes) (h : skipU8M ber n b = some r) : r ⊆ b := by
  revert h
  fun_cases skipU8M ber n b <;> intro h <;> try (cases h; done)
  cases h
  exact (Der.takePrim_subM ber _ _ _ _ ‹takePrimM _ _ _ = some _›).2

theorem signerInfo_specM (ber : Bool) (ct si sid attrs md sig : Bytes) (st : X509.Civil)
    (h : signerInfoM ber ct si = some (sid, attrs, md, st, sig)) :
    SigObj.parseAttrsM ber true attrs = some (ct, md, st) := by
  revert h
  fun_cases signerInfoM ber ct si <;> intro h <;> try (cases h; done)
  cases h
  cases Decidable.not_not.1 ‹¬_ ≠ ct›
  exact ‹SigObj.parseAttrsM _ _ _ = some _›

/-- the signed attributes of a decoded SignedData parse to exactly the returned values, and the certificate is what
`takeCert` reads from some string of octets (the `[0]` value's, though the statement does not say so) -/
theorem signedData_specM (ber : Bool) (sd : Bytes) (o : SigObjD) (hb : AllBytes sd) (h : signedDataM ber sd = some o) :
    SigObj.parseAttrsM ber true o.attrs = some (o.contentType, o.messageDigest, o.signingTime) ∧
    ∃ cc rest, AllBytes cc ∧ takeCertM ber cc = some (o.cert, rest) := by
  revert h
  fun_cases signedDataM ber sd <;> intro h <;> try (cases h; done)
  cases h
  refine ⟨signerInfo_specM ber _ _ _ _ _ _ _ ‹signerInfoM _ _ _ = some _›, _, _, ?_, ‹takeCertM _ _ = some _›⟩
  -- the certificate's octets lie in the `[0]` value after version, digest algorithms and content info
  have b0 := allBytes_of_sub hb (skipU8_subM ber _ _ _ ‹skipU8M _ _ _ = some _›)
  have b1 := allBytes_of_sub b0 (Der.takeCons_subM ber _ _ _ _ ‹takeConsM _ tagSet _ = some (_, _)›).2
  have b2 := allBytes_of_sub b1 (Der.takeCons_subM ber _ _ _ _ ‹takeConsM _ tagSeq _ = some (_, _)›).2
  exact allBytes_of_sub b2 (Der.takeCons_subM ber _ _ _ _ ‹takeConsM _ 0xA0 _ = some (_, _)›).1

theorem decodeSigObj_specM (ber : Bool) (b : Bytes) (o : SigObjD) (hb : AllBytes b) (h : (decodeSigObjM ber) b = some o) :
    (SigObj.parseAttrsM ber) true o.attrs = some (o.contentType, o.messageDigest, o.signingTime) ∧
    ∃ cc rest, AllBytes cc ∧ (takeCertM ber) cc = some (o.cert, rest) := by
  revert h
  fun_cases decodeSigObjM ber b <;> intro h <;> try cases h
  have b0 := allBytes_of_sub hb (Der.takeCons_subM ber _ _ _ _ ‹takeConsM _ tagSeq b = some _›).1
  have b1 := allBytes_of_sub b0 (Der.takePrim_subM ber _ _ _ _ ‹takePrimM _ _ _ = some _›).2
  have b2 := allBytes_of_sub b1 (Der.takeCons_subM ber _ _ _ _ ‹takeConsM _ 0xA0 _ = some _›).1
  exact signedData_specM ber _ o (allBytes_of_sub b2 (Der.takeCons_subM ber _ _ _ _ ‹takeConsM _ tagSeq _ = some (_, _)›).1) h

theorem decodeSigObj_spec (b : Bytes) (o : SigObjD) (hb : AllBytes b) (h : decodeSigObj b = some o) :
    SigObj.parseAttrs true o.attrs = some (o.contentType, o.messageDigest, o.signingTime) ∧
    ∃ cc rest, AllBytes cc ∧ takeCert cc = some (o.cert, rest) := by
  rw [← decodeSigObjM_false] at h
  have := decodeSigObj_specM false b o hb h
  rwa [SigObj.parseAttrsM_false, takeCertM_false] at this

end Rpki.CmsDer
