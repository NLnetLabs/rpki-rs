/-
The RTR session of `Rpki/Model/RtrSession.lean`: payload sets hold one record per key (`WFSet`) and are compared by
membership (`SetEq`), membership after an update, and what a finished client step is.
-/
import Rpki.Model.RtrSession
namespace Rpki.RtrSession
open Rpki.Consts

/-- What a record is filed under: an ASPA under its customer, anything else under itself. `sameKey` is
equality of slots. -/
def slot : Item → Item
  | .aspa c _ => .aspa c 0
  | x => x

theorem sameKey_iff (a b : Item) : a.sameKey b = true ↔ slot a = slot b := by
  cases a <;> cases b <;> simp [Item.sameKey, slot]

theorem minVersion_slot (a : Item) : (slot a).minVersion = a.minVersion := by
  cases a <;> rfl

theorem sameKey_refl (a : Item) : a.sameKey a = true := (sameKey_iff a a).2 rfl

theorem sameKey_symm (a b : Item) : a.sameKey b = b.sameKey a :=
  Bool.eq_iff_iff.2 ((sameKey_iff a b).trans (eq_comm.trans (sameKey_iff b a).symm))

theorem sameKey_minVersion (a b : Item) (h : a.sameKey b = true) : a.minVersion = b.minVersion := by
  rw [← minVersion_slot a, (sameKey_iff a b).1 h, minVersion_slot]

def WFSet (s : PSet) : Prop := ∀ a ∈ s, ∀ b ∈ s, a.sameKey b = true → a = b

def SetEq (a b : PSet) : Prop := ∀ x, x ∈ a ↔ x ∈ b

theorem mem_applyOne (d : PSet) (a : Action) (y x : Item) :
    x ∈ applyOne d (a, y) ↔ (a = .announce ∧ x = y) ∨ (x ∈ d ∧ y.sameKey x = false) := by
  cases a with
  | announce =>
    simp only [applyOne, List.mem_append, List.mem_filter, List.mem_singleton, Bool.not_eq_true']
    constructor
    · rintro (h | h)
      · exact Or.inr h
      · exact Or.inl ⟨trivial, h⟩
    · rintro (⟨_, h⟩ | h)
      · exact Or.inr h
      · exact Or.inl h
  | withdraw =>
    simp only [applyOne, List.mem_filter, Bool.not_eq_true']
    constructor
    · intro h; exact Or.inr h
    · rintro (⟨h, _⟩ | h)
      · cases h
      · exact h

theorem applyAll_cons (d : PSet) (e : Action × Item) (u : Update) :
    applyAll d (e :: u) = applyAll (applyOne d e) u := rfl

/-- For announcements the list must hold one record per key: an item stays unless a later
announcement has its key. -/
theorem mem_applyAll_map (act : Action) (l : List Item) (hk : act = .announce → WFSet l) :
    ∀ (d : PSet) (x : Item), x ∈ applyAll d (l.map (fun y => (act, y))) ↔
      (act = .announce ∧ x ∈ l) ∨ (x ∈ d ∧ ∀ y ∈ l, y.sameKey x = false) := by
  induction l with
  | nil => intro d x; simp [applyAll]
  | cons y ys ih =>
    intro d x
    have hk' : act = .announce → WFSet ys := fun e p hp q hq h =>
      hk e p (List.mem_cons_of_mem _ hp) q (List.mem_cons_of_mem _ hq) h
    simp only [List.map_cons, applyAll_cons, ih hk', mem_applyOne, List.mem_cons, forall_eq_or_imp]
    constructor
    · rintro (⟨ha, h⟩ | ⟨(⟨ha, h⟩ | ⟨h1, h2⟩), h3⟩)
      · exact Or.inl ⟨ha, Or.inr h⟩
      · exact Or.inl ⟨ha, Or.inl h⟩
      · exact Or.inr ⟨h1, h2, h3⟩
    · rintro (⟨ha, h | h⟩ | ⟨h1, h2, h3⟩)
      · subst h
        by_cases hx : x ∈ ys
        · exact Or.inl ⟨ha, hx⟩
        · refine Or.inr ⟨Or.inl ⟨ha, rfl⟩, fun z hz => ?_⟩
          by_cases hs : z.sameKey x = true
          · have := hk ha z (List.mem_cons_of_mem _ hz) x List.mem_cons_self hs
            subst this; exact absurd hz hx
          · simpa using hs
      · exact Or.inl ⟨ha, h⟩
      · exact Or.inr ⟨Or.inr ⟨h1, h2⟩, h3⟩

theorem applyAll_append (d : PSet) (u v : Update) : applyAll d (u ++ v) = applyAll (applyAll d u) v :=
  List.foldl_append ..

theorem gate_append (v : Nat) (a b : Update) : gate v (a ++ b) = gate v a ++ gate v b :=
  List.filter_append ..

theorem gate_map (v : Nat) (act : Action) (l : List Item) :
    gate v (l.map (fun y => (act, y))) = (l.filter (fun y => y.minVersion ≤ v)).map (fun y => (act, y)) :=
  List.filter_map ..

theorem wf_filter (s : PSet) (p : Item → Bool) (h : WFSet s) : WFSet (s.filter p) := by
  intro a ha b hb hab
  exact h a (List.mem_filter.1 ha).1 b (List.mem_filter.1 hb).1 hab

theorem applyAll_setEq (u : Update) : ∀ (d d' : PSet), SetEq d d' → SetEq (applyAll d u) (applyAll d' u) := by
  induction u with
  | nil => intro d d' h; exact h
  | cons e es ih =>
    intro d d' h
    rw [applyAll_cons, applyAll_cons]
    apply ih
    intro x
    obtain ⟨a, y⟩ := e
    rw [mem_applyOne, mem_applyOne, h x]

theorem negotiate_eq_some (c c1 : Client) (cap : Nat) (h : negotiate c cap = some c1) :
    c1.ver ≤ cap ∧ c1.state = c.state ∧ c1.refresh = c.refresh ∧
    (c1 = c ∨ (c.version = none ∧ cap < c.initial ∧ cap < rtrInitialVersion ∧ c1.version = some cap)) := by
  revert h
  fun_cases negotiate c cap <;> intro h <;> cases h
  case case1 h1 => exact ⟨h1, rfl, rfl, Or.inl rfl⟩
  case case4 h1 hv h3 =>
    have hv := Option.not_isSome_iff_eq_none.1 hv
    rw [Client.ver, hv] at h1
    exact ⟨Nat.le_refl _, rfl, rfl, Or.inr ⟨hv, Nat.not_le.1 h1, Nat.not_le.1 h3, rfl⟩⟩

/-- In the form `clientStep` needs after a Cache Reset: it resets the negotiated client with its state cleared. -/
theorem negotiate_of_le (c1 : Client) (cap : Nat) (h : c1.ver ≤ cap) (st : Option (Nat × Nat)) :
    negotiate { c1 with state := st } cap = some { c1 with state := st } :=
  if_pos h

theorem adopt_refresh (c : Client) (v s r f : Nat) (hv : 1 ≤ (adopt c v s r f).ver) :
    (adopt c v s r f).refresh = f :=
  if_neg (Nat.ne_of_gt hv)

theorem clientReset_ok {c : Client} {cap : Nat} {s : Src} {c' : Client} {reset : Bool} {upd : Update}
    (h : clientReset c cap s = .ok c' reset upd) :
    ∃ c1, negotiate c cap = some c1 ∧ c' = adopt c1 c1.ver s.session s.serial s.refresh ∧
      reset = true ∧ upd = gate c1.ver (s.cur.map (fun x => (Action.announce, x))) := by
  revert h
  fun_cases clientReset c cap s <;> intro h <;> cases h
  case case2 => cases ‹serverReset s _ = _›; exact ⟨_, ‹negotiate c cap = some _›, rfl, rfl, rfl⟩

theorem serverSerial_cases (s : Src) (v sess ser : Nat) :
    serverSerial s v sess ser = .cacheReset v ∨
    ∃ old, sess = s.session ∧ s.lookup ser = some old ∧
      serverSerial s v sess ser = .data v s.session s.serial s.refresh (gate v (diffItems old s.cur)) := by
  unfold serverSerial Src.diff
  by_cases hsess : sess ≠ s.session
  · rw [if_pos hsess]; exact Or.inl rfl
  · rw [if_neg hsess]
    cases hl : s.lookup ser with
    | none => exact Or.inl rfl
    | some old => exact Or.inr ⟨old, Classical.not_not.1 hsess, rfl, rfl⟩

/-- A finished step: the client that came out of the version negotiation adopts the source's state;
the update is the gated diff from the set the client's state names, if the source still has it, and
a reset otherwise. -/
theorem clientStep_ok {c : Client} {cap : Nat} {s : Src} {c' : Client} {reset : Bool} {upd : Update}
    (h : clientStep c cap s = .ok c' reset upd) :
    ∃ c1, negotiate c cap = some c1 ∧ c' = adopt c1 c1.ver s.session s.serial s.refresh ∧
      ((reset = true ∧ upd = gate c1.ver (s.cur.map (fun x => (Action.announce, x)))) ∨
       (reset = false ∧ ∃ ser old, c.state = some (s.session, ser) ∧ s.lookup ser = some old ∧
          upd = gate c1.ver (diffItems old s.cur))) := by
  revert h
  fun_cases clientStep c cap s <;> intro h
  case case1 =>
    obtain ⟨c1, hn, hc, hr⟩ := clientReset_ok h
    exact ⟨c1, hn, hc, Or.inl hr⟩
  case case2 => cases h
  case case5 => cases h
  case case3 sess ser hst c1 hn _ _ _ _ _ e =>
    rcases serverSerial_cases s c1.ver sess ser with e' | ⟨old, rfl, hl, e'⟩ <;> rw [e'] at e <;> cases e
    cases h
    exact ⟨c1, hn, rfl, Or.inr ⟨rfl, ser, old, hst, hl, rfl⟩⟩
  case case4 sess ser hst c1 hn _ e =>
    obtain ⟨c2, hn2, hc, hr⟩ := clientReset_ok h
    rw [negotiate_of_le c1 cap (negotiate_eq_some c c1 cap hn).1 none] at hn2
    cases hn2
    exact ⟨c1, hn, hc, Or.inl hr⟩

end Rpki.RtrSession
