/-
Valid rsync URIs against each other: `==`, `eq_module`, `relative_to`,
`is_parent_of`, and where `join` puts its result.
-/
import Rpki.Proofs.UriRsync
namespace Rpki.Uri
open Rpki.Consts

theorem Rsync.eq_iff (u o : Rsync) (hu : u.Inv) (ho : o.Inv) :
    u.eq o = true ↔ EqAt u.bytes u.moduleStart o.bytes o.moduleStart := by
  unfold Rsync.eq
  constructor
  · intro h
    by_cases hl : u.bytes.length ≠ o.bytes.length
    · rw [if_pos hl] at h; cases h
    · rw [if_neg hl, Bool.and_eq_true, eqIgnoreCase_iff, beq_iff_eq] at h
      obtain ⟨hA, hB⟩ := h
      -- the texts are equal up to case, so the authorities end at the same place
      have hfull : u.bytes.map toLower = o.bytes.map toLower := by
        rw [← List.take_append_drop u.moduleStart u.bytes, ← List.take_append_drop u.moduleStart o.bytes,
          List.map_append, List.map_append, hA, hB]
      have hd8 := congrArg (List.drop 8) hfull
      rw [← List.map_drop, ← List.map_drop, hu.layout.drop8, ho.layout.drop8] at hd8
      have hms : u.moduleStart = o.moduleStart := by
        rw [hu.layout.moduleStart, ho.layout.moduleStart,
          lower_first_slash _ _ _ _ hu.valid.auth_noslash ho.valid.auth_noslash hd8]
      exact ⟨hms, hms ▸ hA, hms ▸ hB⟩
  · rintro ⟨hms, hA, hB⟩
    have hl : u.bytes.length = o.bytes.length := by
      have h1 := congrArg List.length hA
      rw [List.length_map, List.length_map] at h1
      rw [← List.take_append_drop u.moduleStart u.bytes, ← List.take_append_drop o.moduleStart o.bytes,
        List.length_append, List.length_append, h1, hB]
    rw [if_neg (fun h => h hl), Bool.and_eq_true, eqIgnoreCase_iff, beq_iff_eq, hms]
    exact ⟨hms ▸ hA, hms ▸ hB⟩

theorem Rsync.eqModule_iff (u o : Rsync) :
    u.eqModule o = true ↔ u.pathStart = o.pathStart ∧ u.moduleStart = o.moduleStart ∧
      (u.bytes.take u.moduleStart).map toLower = (o.bytes.take o.moduleStart).map toLower ∧
      slice u.bytes u.moduleStart u.pathStart = slice o.bytes o.moduleStart o.pathStart := by
  -- the value read from `eq_module` in the source: the module name is compared exactly
  have hflag : rsyncModuleCaseInsensitive = false := rfl
  rw [Rsync.eqModule, hflag, if_neg (by decide), Bool.and_eq_true, Bool.and_eq_true, Bool.and_eq_true,
    beq_iff_eq, beq_iff_eq, beq_iff_eq, eqIgnoreCase_iff, and_assoc, and_assoc]

theorem Rsync.eqModule_refl (u : Rsync) : u.eqModule u = true :=
  (Rsync.eqModule_iff u u).2 ⟨rfl, rfl, rfl, rfl⟩

theorem Rsync.eqModule_symm (u o : Rsync) (h : u.eqModule o = true) : o.eqModule u = true :=
  have ⟨a, b, c, d⟩ := (Rsync.eqModule_iff u o).1 h
  (Rsync.eqModule_iff o u).2 ⟨a.symm, b.symm, c.symm, d.symm⟩

theorem Rsync.eqModule_trans (u o w : Rsync) (h1 : u.eqModule o = true) (h2 : o.eqModule w = true) :
    u.eqModule w = true :=
  have ⟨a, b, c, d⟩ := (Rsync.eqModule_iff u o).1 h1
  have ⟨a', b', c', d'⟩ := (Rsync.eqModule_iff o w).1 h2
  (Rsync.eqModule_iff u w).2 ⟨a.trans a', b.trans b', c.trans c', d.trans d'⟩

theorem Rsync.Layout.eqModule_iff {u o : Rsync} {s a m p s' a' m' p' : Bytes} (L : u.Layout s a m p)
    (L' : o.Layout s' a' m' p') :
    u.eqModule o = true ↔ s.map toLower = s'.map toLower ∧ a.map toLower = a'.map toLower ∧ m = m' := by
  rw [Rsync.eqModule_iff, L.take_ms, L'.take_ms, L.slice_ms_ps, L'.slice_ms_ps, L.pathStart, L'.pathStart,
    L.moduleStart, L'.moduleStart, List.map_append, List.map_append, List.map_append, List.map_append]
  constructor
  · rintro ⟨-, -, hA, hS⟩
    have := List.append_inj hA (by rw [List.length_map, List.length_map, L.sch_length, L'.sch_length])
    exact ⟨this.1, List.append_cancel_right this.2, List.append_cancel_right hS⟩
  · rintro ⟨h1, h2, rfl⟩
    have hl : a.length = a'.length := by rw [← List.length_map (f := toLower), h2, List.length_map]
    exact ⟨by rw [hl], by rw [hl], by rw [h1, h2], rfl⟩

theorem Rsync.eq_iff_eqModule (u o : Rsync) (hu : u.Inv) (ho : o.Inv) :
    u.eq o = true ↔ u.eqModule o = true ∧ u.path = o.path := by
  have Lu := hu.layout
  have Lo := ho.layout
  rw [Rsync.eq_iff u o hu ho, EqAt, Rsync.eqModule_iff, Lu.drop_ms, Lo.drop_ms, Lu.slice_ms_ps, Lo.slice_ms_ps]
  constructor
  · rintro ⟨hms, hA, hd⟩
    have ⟨e1, e2⟩ := first_slash_unique _ _ _ _ hu.valid.md_noslash ho.valid.md_noslash hd
    exact ⟨⟨by rw [Lu.pathStart, Lo.pathStart, hms, e1], hms, hA, by rw [e1]⟩, e2⟩
  · rintro ⟨⟨_, hms, hA, hS⟩, hp⟩
    exact ⟨hms, hA, by rw [List.append_cancel_right hS, hp]⟩

/-- the prefix test at the heart of `relative_to` -/
theorem relCore_iff (s q p : Bytes) :
    (if (!startsWith s q) = true then none
      else if s.length = q.length then some []
      else if s[q.length]? ≠ some slash then none
      else some (s.drop (q.length + 1))) = some p ↔ (s = q ∧ p = []) ∨ s = q ++ slash :: p := by
  constructor
  · intro h
    cases hsw : startsWith s q with
    | false => rw [hsw] at h; cases h
    | true =>
      rw [hsw, if_neg (by decide)] at h
      have hsw : s.take q.length = q := beq_iff_eq.1 hsw
      by_cases hl : s.length = q.length
      · rw [if_pos hl] at h
        exact Or.inl ⟨by rw [← hsw, ← hl, List.take_length], (Option.some.inj h).symm⟩
      · rw [if_neg hl] at h
        by_cases hsl : s[q.length]? = some slash
        · rw [if_neg (fun hne => hne hsl)] at h
          have := (Lists.eq_take_cons_drop hsl).2
          rw [hsw, Option.some.inj h] at this
          exact Or.inr this
        · rw [if_pos hsl] at h; cases h
  · rintro (⟨rfl, rfl⟩ | rfl)
    · have : startsWith s s = true := beq_iff_eq.2 List.take_length
      rw [this, if_neg (by decide), if_pos rfl]
    · have h1 : startsWith (q ++ slash :: p) q = true := beq_iff_eq.2 List.take_left
      have h2 : ¬ (q ++ slash :: p).length = q.length := by
        rw [List.length_append, List.length_cons]; omega
      rw [h1, if_neg (by decide), if_neg h2, List.getElem?_append_right (Nat.le_refl _), Nat.sub_self,
        if_neg (fun hne => hne rfl), List.drop_length_add_append]
      rfl

theorem Rsync.relativeTo_eq_some_iff (u o : Rsync) (p : Bytes) :
    u.relativeTo o = some p ↔ u.eqModule o = true ∧
      ((o.path = [] ∧ u.path = p) ∨
       (o.path ≠ [] ∧ ((u.path = stripSlash o.path ∧ p = []) ∨ u.path = stripSlash o.path ++ slash :: p))) := by
  unfold Rsync.relativeTo
  cases hm : u.eqModule o with
  | false => exact ⟨(fun h => nomatch h), fun h => nomatch h.1⟩
  | true =>
    rw [if_neg (by decide)]
    by_cases hop : o.path = []
    · rw [if_pos hop]
      exact ⟨fun h => ⟨rfl, Or.inl ⟨hop, Option.some.inj h⟩⟩,
        fun h => h.2.elim (fun h => congrArg some h.2) (fun h => absurd hop h.1)⟩
    · rw [if_neg hop]
      exact (relCore_iff u.path (stripSlash o.path) p).trans
        ⟨fun h => ⟨rfl, Or.inr ⟨hop, h⟩⟩, fun h => h.2.elim (fun h => absurd h.1 hop) (·.2)⟩

theorem Rsync.relativeTo_eq_some_ne (u o : Rsync) {p : Bytes} (hp : p ≠ []) :
    u.relativeTo o = some p ↔ u.eqModule o = true ∧ u.path = dirPath o.path ++ p := by
  rw [Rsync.relativeTo_eq_some_iff, dirPath]
  refine and_congr_right fun _ => ?_
  by_cases hop : o.path = []
  · rw [if_pos hop]
    constructor
    · rintro (⟨_, e⟩ | ⟨hne, _⟩)
      · exact e
      · exact absurd hop hne
    · exact fun e => Or.inl ⟨hop, e⟩
  · rw [if_neg hop, List.append_assoc]
    constructor
    · rintro (⟨he, _⟩ | ⟨_, ⟨_, e⟩ | e⟩)
      · exact absurd he hop
      · exact absurd e hp
      · exact e
    · exact fun e => Or.inr ⟨hop, Or.inr e⟩

theorem Rsync.relativeTo_self (u : Rsync) : u.relativeTo u = some [] := by
  rw [Rsync.relativeTo_eq_some_iff]
  refine ⟨Rsync.eqModule_refl u, ?_⟩
  by_cases hp : u.path = []
  · exact Or.inl ⟨hp, hp⟩
  · refine Or.inr ⟨hp, ?_⟩
    rcases stripSlash_cases u.path with ⟨_, h2⟩ | ⟨_, h2⟩
    · exact Or.inl ⟨h2.symm, rfl⟩
    · exact Or.inr h2

theorem Rsync.join_path (u v : Rsync) (p : Bytes) (hu : u.Inv) (hj : u.join p = .ok v) (hp : p ≠ []) :
    v.path = dirPath u.path ++ p ∧ v.eqModule u = true :=
  have L := hu.layout.join hp hj
  ⟨L.path_eq, (L.eqModule_iff hu.layout).2 ⟨rfl, rfl, rfl⟩⟩

theorem Rsync.relativeTo_empty_iff (u o : Rsync) (hu : u.Inv) (ho : o.Inv) :
    u.relativeTo o = some [] ↔ u.eqModule o = true ∧ stripSlash u.path = stripSlash o.path := by
  rw [Rsync.relativeTo_eq_some_iff]
  refine and_congr_right fun _ => ?_
  have ⟨_, su⟩ := stripSlash_checked _ hu.valid.path_ok
  have ⟨so, _⟩ := stripSlash_checked _ ho.valid.path_ok
  constructor
  · rintro (⟨e1, e2⟩ | ⟨_, ⟨e, _⟩ | e⟩)
    · rw [e1, e2]
    · rw [e, stripSlash_of_not so]
    · rw [e, stripSlash_snoc]
  · intro e
    by_cases hne : o.path = []
    · exact Or.inl ⟨hne, su (by rw [e, hne, stripSlash_nil])⟩
    · refine Or.inr ⟨hne, ?_⟩
      rcases stripSlash_cases u.path with ⟨_, h2⟩ | ⟨_, h2⟩
      · exact Or.inl ⟨h2.symm.trans e, rfl⟩
      · exact Or.inr (e ▸ h2)

theorem Rsync.isParentOf_iff (u o : Rsync) :
    u.isParentOf o = true ↔ o.eqModule u = true ∧ ∃ p, p ≠ [] ∧ o.path = dirPath u.path ++ p := by
  unfold Rsync.isParentOf
  constructor
  · intro h
    cases hr : o.relativeTo u with
    | none => rw [hr] at h; cases h
    | some p =>
      rw [hr] at h
      have hp : p ≠ [] := of_decide_eq_true h
      have ⟨hm, e⟩ := (Rsync.relativeTo_eq_some_ne o u hp).1 hr
      exact ⟨hm, p, hp, e⟩
  · rintro ⟨hm, p, hp, e⟩
    rw [(Rsync.relativeTo_eq_some_ne o u hp).2 ⟨hm, e⟩]
    exact decide_eq_true hp

theorem Rsync.isParentOf_irrefl (u : Rsync) : u.isParentOf u = false := by
  cases h : u.isParentOf u with
  | false => rfl
  | true =>
    obtain ⟨_, p, hp, e⟩ := (Rsync.isParentOf_iff u u).1 h
    rw [dirPath_eq] at e
    split at e
    · exact absurd (List.self_eq_append_right.1 e) hp
    · rw [List.append_assoc] at e
      exact absurd (List.self_eq_append_right.1 e) (List.cons_ne_nil _ _)

theorem Rsync.isParentOf_trans (u o w : Rsync) (h1 : u.isParentOf o = true) (h2 : o.isParentOf w = true) :
    u.isParentOf w = true := by
  obtain ⟨m1, p, hp, e1⟩ := (Rsync.isParentOf_iff u o).1 h1
  obtain ⟨m2, q, hq, e2⟩ := (Rsync.isParentOf_iff o w).1 h2
  refine (Rsync.isParentOf_iff u w).2 ⟨Rsync.eqModule_trans _ _ _ m2 m1, dirPath p ++ q,
    fun e => hq (List.append_eq_nil_iff.1 e).2, ?_⟩
  rw [e2, e1, dirPath_append hp, List.append_assoc]

theorem Rsync.join_beneath (u v : Rsync) (p : Bytes) (hu : u.Inv) (hj : u.join p = .ok v) :
    v.relativeTo u = some p ∧ (p ≠ [] → u.isParentOf v = true) := by
  by_cases hp : p = []
  · subst hp
    cases hj
    exact ⟨Rsync.relativeTo_self u, fun h => absurd rfl h⟩
  · obtain ⟨e, hm⟩ := Rsync.join_path u v p hu hj hp
    exact ⟨(Rsync.relativeTo_eq_some_ne v u hp).2 ⟨hm, e⟩,
      fun _ => (Rsync.isParentOf_iff u v).2 ⟨hm, p, hp, e⟩⟩

theorem Rsync.relativeTo_congr (u u' o o' : Rsync) (hu : u.Inv) (hu' : u'.Inv) (ho : o.Inv) (ho' : o'.Inv)
    (h1 : u.eq u' = true) (h2 : o.eq o' = true) : u.relativeTo o = u'.relativeTo o' := by
  have ⟨m1, p1⟩ := (Rsync.eq_iff_eqModule u u' hu hu').1 h1
  have ⟨m2, p2⟩ := (Rsync.eq_iff_eqModule o o' ho ho').1 h2
  have e : u.eqModule o = u'.eqModule o' := Bool.eq_iff_iff.2
    ⟨fun hm => Rsync.eqModule_trans _ _ _ (Rsync.eqModule_symm _ _ m1) (Rsync.eqModule_trans _ _ _ hm m2),
     fun hm => Rsync.eqModule_trans _ _ _ m1 (Rsync.eqModule_trans _ _ _ hm (Rsync.eqModule_symm _ _ m2))⟩
  rw [Rsync.relativeTo, Rsync.relativeTo, e, p1, p2]

theorem Rsync.isParentOf_congr (u u' o o' : Rsync) (hu : u.Inv) (hu' : u'.Inv) (ho : o.Inv) (ho' : o'.Inv)
    (h1 : u.eq u' = true) (h2 : o.eq o' = true) : u.isParentOf o = u'.isParentOf o' := by
  unfold Rsync.isParentOf
  rw [Rsync.relativeTo_congr o o' u u' ho ho' hu hu' h2 h1]

end Rpki.Uri
