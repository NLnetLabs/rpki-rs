/-
Serial numbers (`Serial` in `Rpki/Model/X509.lean`): 20 octets read as a big-endian number below 2^159.
From that number, decimal text and DER content round-trip, `from_slice` keeps the value, and array order is
numeric order.
-/
import Rpki.Proofs.X509Time
-- No proof below calls Mathlib. The import stays: the modules that import this one were elaborated with Mathlib's
-- `Monoid.npow` in their closure, and without it `2 ^ k` in their statements would elaborate differently.
import Mathlib.Tactic.Ring
namespace Rpki.X509
open Rpki.Arith

def AllBytes (l : Bytes) : Prop := ∀ b ∈ l, b < 256

theorem AllBytes.cons {b : Nat} {l : Bytes} : AllBytes (b :: l) ↔ b < 256 ∧ AllBytes l :=
  List.forall_mem_cons

theorem allBytes_append {a b : Bytes} : AllBytes (a ++ b) ↔ AllBytes a ∧ AllBytes b :=
  List.forall_mem_append

theorem allBytes_reverse {a : Bytes} : AllBytes a.reverse ↔ AllBytes a := by
  unfold AllBytes; simp

theorem allBytes_replicate (k : Nat) : AllBytes (List.replicate k 0) := by
  intro b hb; rw [List.mem_replicate] at hb; omega

theorem toNatBE_eq_ofDigits (a : Bytes) : toNatBE a = ofDigits 256 a := by
  induction a with
  | nil => rfl
  | cons x xs ih => rw [toNatBE, ih, ofDigits_cons]

theorem valLE_eq_ofDigits (a : Bytes) : valLE a = ofDigits 256 a.reverse := by
  induction a with
  | nil => rfl
  | cons x xs ih => rw [valLE, ih, List.reverse_cons, ofDigits_concat, Nat.add_comm, Nat.mul_comm]

theorem toNatBE_append (a b : Bytes) : toNatBE (a ++ b) = toNatBE a * 256 ^ b.length + toNatBE b := by
  rw [toNatBE_eq_ofDigits, toNatBE_eq_ofDigits, toNatBE_eq_ofDigits]
  exact ofDigits_append 256 a b

theorem toNatBE_replicate_zero (k : Nat) : toNatBE (List.replicate k 0) = 0 := by
  induction k with
  | zero => rfl
  | succ n ih => simp [List.replicate_succ, toNatBE, ih]

theorem toNatBE_pad (k : Nat) (s : Bytes) : toNatBE (List.replicate k 0 ++ s) = toNatBE s := by
  rw [toNatBE_append, toNatBE_replicate_zero]; simp

theorem toNatBE_eq_valLE_reverse (a : Bytes) : toNatBE a = valLE a.reverse := by
  rw [valLE_eq_ofDigits, List.reverse_reverse, toNatBE_eq_ofDigits]

theorem toNatBE_lt (a : Bytes) (h : AllBytes a) : toNatBE a < 256 ^ a.length :=
  toNatBE_eq_ofDigits a ▸ ofDigits_lt h

/-- the array of `n` octets with value `v` -/
abbrev arr (n v : Nat) : Bytes := digitsBE 256 n v

theorem eq_arr {n v : Nat} {b : Bytes} (hl : b.length = n) (hb : AllBytes b) (hv : toNatBE b = v) : b = arr n v := by
  subst hl hv
  rw [toNatBE_eq_ofDigits]
  exact (digitsBE_ofDigits (by decide) hb).symm

theorem lexCmp_eq_compare : ∀ (a b : Bytes), a.length = b.length → AllBytes a → AllBytes b →
    lexCmp a b = compare (toNatBE a) (toNatBE b) := by
  intro a
  induction a with
  | nil => intro b hl _ _; cases b with | nil => rfl | cons _ _ => cases hl
  | cons x xs ih =>
    intro b hl ha hb
    cases b with
    | nil => cases hl
    | cons y ys =>
      rw [AllBytes.cons] at ha hb
      have hl := Nat.succ.inj hl
      rw [lexCmp, toNatBE_eq_ofDigits, toNatBE_eq_ofDigits, compare_ofDigits_cons hl ha.2 hb.2,
        ← toNatBE_eq_ofDigits, ← toNatBE_eq_ofDigits, ← ih ys hl ha.2 hb.2, Nat.compare_eq_ite_lt,
        apply_ite (Ordering.then · _), apply_ite (Ordering.then · _)]
      rfl

theorem mulLE_spec : ∀ (bs : Bytes) (r c : Nat),
    valLE (mulLE bs r c).1 + 256 ^ bs.length * (mulLE bs r c).2 = valLE bs * r + c ∧
    (mulLE bs r c).1.length = bs.length ∧ AllBytes (mulLE bs r c).1 := by
  intro bs
  induction bs with
  | nil => intro r c; simp [mulLE, valLE, AllBytes]
  | cons b bs ih =>
    intro r c
    have ⟨h1, h2, h3⟩ := ih r ((b * r + c) / 256)
    simp only [mulLE, valLE, List.length_cons, Nat.pow_succ]
    refine ⟨?_, congrArg (· + 1) h2, AllBytes.cons.2 ⟨Nat.mod_lt _ (by decide), h3⟩⟩
    rw [Nat.add_mul, Nat.mul_assoc 256, Nat.mul_right_comm]
    omega

theorem addLE_eq_mulLE (bs : Bytes) (c : Nat) : addLE bs c = mulLE bs 1 c := by
  induction bs generalizing c with
  | nil => rfl
  | cons b bs ih => simp only [addLE, mulLE, ih, Nat.mul_one]

theorem divBE_spec : ∀ (bs : Bytes) (r step : Nat), 0 < r → step < r →
    toNatBE (divBE bs r step).1 * r + (divBE bs r step).2 = step * 256 ^ bs.length + toNatBE bs ∧
    (divBE bs r step).2 < r ∧ (divBE bs r step).1.length = bs.length ∧
    (AllBytes bs → AllBytes (divBE bs r step).1) := by
  intro bs
  induction bs with
  | nil => intro r step hr hs; simp [divBE, toNatBE, AllBytes]; exact hs
  | cons b bs ih =>
    intro r step hr hs
    have ⟨h1, h2, h3, h4⟩ := ih r ((step * 256 + b) % r) hr (Nat.mod_lt _ hr)
    simp only [divBE, toNatBE, List.length_cons, h3]
    refine ⟨?_, h2, trivial, fun hb => ?_⟩
    · have := congrArg (· * 256 ^ bs.length) (Nat.div_add_mod (step * 256 + b) r)
      simp only [Nat.add_mul] at this
      rw [Nat.mul_comm r] at this
      rw [Nat.add_mul, Nat.add_assoc, h1, Nat.pow_succ, Nat.mul_right_comm _ _ r, ← Nat.mul_assoc step,
        Nat.mul_right_comm step]
      omega
    · rw [AllBytes.cons] at hb ⊢
      refine ⟨Nat.div_lt_of_lt_mul ?_, h4 hb.2⟩
      have := Nat.mul_le_mul_left 256 (Nat.succ_le_of_lt hs)
      omega


theorem top_bit_clear_iff {x : Nat} (h : x < 256) : x / 128 % 2 = 0 ↔ x < 128 := by
  rw [Nat.mod_eq_of_lt (Nat.div_lt_of_lt_mul h), Nat.div_eq_zero_iff_lt (by decide)]

theorem headD_lt_iff (a : Bytes) (ha : AllBytes a) (hne : a ≠ []) :
    a.headD 0 / 128 % 2 = 0 ↔ toNatBE a * 2 < 256 ^ a.length := by
  cases a with
  | nil => exact absurd rfl hne
  | cons x xs =>
    rw [AllBytes.cons] at ha
    have h1 := toNatBE_lt xs ha.2
    rw [List.headD_cons, top_bit_clear_iff ha.1, toNatBE, List.length_cons, Nat.pow_succ]
    constructor
    · intro h
      have := Arith.mul_add_lt h h1
      omega
    · intro h
      refine Nat.lt_of_not_le fun hx => ?_
      have := Nat.mul_le_mul_right (256 ^ xs.length) hx
      omega

/-- Both checked operations run `mulLE` over the reversed array and accept when no carry is left and
the top bit is clear: that is, exactly when `value * r + c` is below half the range, and the result is
then the array of that value. -/
theorem checked_spec {n : Nat} (a : Bytes) (r c : Nat) (hl : a.length = n) (hn : 0 < n) :
    (let (rs, k) := mulLE a.reverse r c
     if k = 0 ∧ rs.reverse.headD 0 / 128 % 2 = 0 then some rs.reverse else none) =
      if (toNatBE a * r + c) * 2 < 256 ^ n then some (arr n (toNatBE a * r + c)) else none := by
  subst hl
  have ⟨h1, h2, h3⟩ := mulLE_spec a.reverse r c
  generalize mulLE a.reverse r c = res at *
  obtain ⟨rs, k⟩ := res
  dsimp only at h1 h2 h3 ⊢
  rw [List.length_reverse, ← toNatBE_eq_valLE_reverse a] at h1
  rw [List.length_reverse] at h2
  have hlen : rs.reverse.length = a.length := by rw [List.length_reverse, h2]
  have hval : toNatBE rs.reverse = valLE rs := by rw [toNatBE_eq_valLE_reverse, List.reverse_reverse]
  have hb := allBytes_reverse.2 h3
  have hhead := headD_lt_iff rs.reverse hb (List.ne_nil_of_length_pos (hlen ▸ hn))
  rw [hlen, hval] at hhead
  rcases Nat.eq_zero_or_pos k with rfl | hk
  · rw [Nat.mul_zero, Nat.add_zero] at h1
    rw [h1] at hhead
    by_cases hv : (toNatBE a * r + c) * 2 < 256 ^ a.length
    · rw [if_pos hv, if_pos ⟨rfl, hhead.2 hv⟩, eq_arr hlen hb (hval.trans h1)]
    · rw [if_neg hv, if_neg fun h => hv (hhead.1 h.2)]
  · have hv : ¬ (toNatBE a * r + c) * 2 < 256 ^ a.length := fun h =>
      Nat.lt_irrefl _ (calc 256 ^ a.length
        _ ≤ 256 ^ a.length * k := Nat.le_mul_of_pos_right _ hk
        _ ≤ toNatBE a * r + c := h1 ▸ Nat.le_add_left _ _
        _ ≤ (toNatBE a * r + c) * 2 := Nat.le_mul_of_pos_right _ (by decide)
        _ < 256 ^ a.length := h)
    rw [if_neg hv, if_neg fun h => Nat.ne_of_gt hk h.1]

theorem checkedMul_spec {n : Nat} (a : Bytes) (r : Nat) (hl : a.length = n) (hn : 0 < n) :
    checkedMul a r = if toNatBE a * r * 2 < 256 ^ n then some (arr n (toNatBE a * r)) else none :=
  checked_spec a r 0 hl hn

theorem checkedAdd_spec {n : Nat} (a : Bytes) (r : Nat) (hl : a.length = n) (hn : 0 < n) :
    checkedAdd a r = if (toNatBE a + r) * 2 < 256 ^ n then some (arr n (toNatBE a + r)) else none := by
  have := checked_spec a 1 r hl hn
  rw [Nat.mul_one, ← addLE_eq_mulLE] at this
  exact this

/-- a valid serial: 20 octets, top bit clear (value below 2^159) -/
def VS (a : Bytes) : Prop := a.length = 20 ∧ AllBytes a ∧ toNatBE a * 2 < 256 ^ 20

theorem VS.eq_arr {a : Bytes} (h : VS a) : a = arr 20 (toNatBE a) := X509.eq_arr h.1 h.2.1 rfl

theorem vs_arr {v : Nat} (h : v * 2 < 256 ^ 20) : VS (arr 20 v) ∧ toNatBE (arr 20 v) = v := by
  have hv : toNatBE (arr 20 v) = v := by
    rw [toNatBE_eq_ofDigits]
    exact ofDigits_digitsBE_lt (Nat.lt_of_le_of_lt (Nat.le_mul_of_pos_right v (by decide)) h)
  exact ⟨⟨digitsBE_length 256 20 v, digitsBE_lt (by decide) 20 v, hv.symm ▸ h⟩, hv⟩

theorem toNatBE_zero20 : toNatBE zero20 = 0 := toNatBE_replicate_zero 20

theorem vs_zero : VS zero20 :=
  ⟨List.length_replicate, allBytes_replicate 20, by rw [toNatBE_zero20]; decide⟩

theorem fromStrAux_cons (ch : Nat) (rest res : Bytes) (hr : VS res) (hd : isDigit ch = true) :
    fromStrAux (ch :: rest) res =
      if (toNatBE res * 10 + (ch - 48)) * 2 < 256 ^ 20 then fromStrAux rest (arr 20 (toNatBE res * 10 + (ch - 48)))
      else none := by
  rw [fromStrAux, if_pos hd, checkedMul_spec res 10 hr.1 (by decide)]
  by_cases c1 : toNatBE res * 10 * 2 < 256 ^ 20
  · rw [if_pos c1]
    dsimp only
    rw [checkedAdd_spec _ _ (vs_arr c1).1.1 (by decide), (vs_arr c1).2]
    by_cases c2 : (toNatBE res * 10 + (ch - 48)) * 2 < 256 ^ 20
    · rw [if_pos c2, if_pos c2]
    · rw [if_neg c2, if_neg c2]
  · rw [if_neg c1, if_neg fun h => c1 (Nat.lt_of_le_of_lt (Nat.mul_le_mul_right 2 (Nat.le_add_right _ _)) h)]

/-- `Serial::from_str` gives the array of the digits' value, when every character is a digit and the value
is below 2^159. -/
theorem fromStrAux_spec : ∀ (t res : Bytes), VS res →
    fromStrAux t res = if t.all isDigit = true ∧ digitsVal t (toNatBE res) * 2 < 256 ^ 20
      then some (arr 20 (digitsVal t (toNatBE res))) else none := by
  intro t
  induction t with
  | nil => intro res hr; rw [if_pos ⟨rfl, hr.2.2⟩]; exact congrArg some hr.eq_arr
  | cons ch rest ih =>
    intro res hr
    have hall : (ch :: rest).all isDigit = true ↔ isDigit ch = true ∧ rest.all isDigit = true := by
      rw [List.all_cons, Bool.and_eq_true]
    rw [digitsVal]
    by_cases hd : isDigit ch = true
    · rw [fromStrAux_cons ch rest res hr hd]
      by_cases c : (toNatBE res * 10 + (ch - 48)) * 2 < 256 ^ 20
      · rw [if_pos c, ih _ (vs_arr c).1, (vs_arr c).2]
        exact if_congr (and_congr_left' (hall.trans (and_iff_right hd)).symm) rfl rfl
      · rw [if_neg c, if_neg fun h => c (Nat.lt_of_le_of_lt (Nat.mul_le_mul_right 2 (digitsVal_ge rest _)) h.2)]
    · rw [fromStrAux, if_neg hd, if_neg fun h => hd (hall.1 h.1).1]

theorem fromStr_spec (t : Bytes) : fromStr t =
    if t.all isDigit = true ∧ digitsVal t 0 * 2 < 256 ^ 20 then some (arr 20 (digitsVal t 0)) else none := by
  have := fromStrAux_spec t zero20 vs_zero
  rwa [toNatBE_zero20] at this

/-- the decimal digits of `n`, most significant first (fuel = maximal number of digits) -/
def decDigits : Nat → Nat → Bytes
  | 0, _ => []
  | f + 1, n => if n = 0 then [] else decDigits f (n / 10) ++ [n % 10 + 48]

theorem isZero_iff (a : Bytes) : isZero a = true ↔ toNatBE a = 0 := by
  induction a with
  | nil => exact iff_of_true rfl rfl
  | cons x xs ih =>
    rw [toNatBE, Nat.add_eq_zero_iff, Nat.mul_eq_zero,
      or_iff_left (Nat.ne_of_gt (Nat.pow_pos (by decide))), ← ih]
    unfold isZero
    rw [List.all_cons, Bool.and_eq_true, decide_eq_true_eq]

theorem encodeDecAux_eq : ∀ (fuel : Nat) (a acc : Bytes), AllBytes a →
    encodeDecAux fuel a acc = decDigits fuel (toNatBE a) ++ acc := by
  intro fuel
  induction fuel with
  | zero => intro a acc _; rfl
  | succ f ih =>
    intro a acc ha
    rw [encodeDecAux, decDigits]
    by_cases hz : isZero a = true
    · rw [if_pos hz, if_pos ((isZero_iff a).1 hz)]; rfl
    · rw [if_neg hz, if_neg (mt (isZero_iff a).2 hz)]
      have ⟨d1, d2, _, d4⟩ := divBE_spec a 10 0 (by decide) (by decide)
      rw [Nat.zero_mul, Nat.zero_add] at d1
      have ⟨hq, hr⟩ := Arith.mul_add_div_mod (q := toNatBE (divBE a 10 0).1) d2
      rw [d1] at hq hr
      dsimp only
      rw [ih _ _ (d4 ha), hq, hr, List.append_assoc]
      rfl

theorem decDigits_digits (f n : Nat) : (decDigits f n).all isDigit = true := by
  fun_induction decDigits f n
  · rfl
  · rfl
  · rename_i n _ ih
    rw [List.all_append, ih, List.all_cons, isDigit, decide_eq_true (Nat.le_add_left 48 _),
      decide_eq_true (Nat.add_le_add_right (Nat.le_of_lt_succ (Nat.mod_lt n (by decide))) 48)]
    rfl

theorem decDigits_val (f n : Nat) (h : n < 10 ^ f) : digitsVal (decDigits f n) 0 = n := by
  fun_induction decDigits f n
  · exact (Nat.lt_one_iff.1 h).symm
  · rfl
  · rename_i n _ ih
    rw [digitsVal_append, ih (Nat.div_lt_of_lt_mul (Nat.pow_succ' ▸ h))]
    show n / 10 * 10 + (n % 10 + 48 - 48) = n
    rw [Nat.add_sub_cancel, Nat.div_add_mod']

theorem dec_roundtrip_fuel (a : Bytes) (ha : VS a) (fuel : Nat) (hf : toNatBE a < 10 ^ fuel) :
    fromStr (encodeDecAux fuel a []) = some a := by
  rw [encodeDecAux_eq fuel a [] ha.2.1, List.append_nil, fromStr_spec, decDigits_val fuel _ hf,
    if_pos ⟨decDigits_digits _ _, ha.2.2⟩, ← ha.eq_arr]

theorem fromArray_eq (a : Bytes) (ha : AllBytes a) (hne : a ≠ []) :
    fromArray a = if toNatBE a * 2 < 256 ^ a.length then .ok a else .error .long := by
  unfold fromArray
  rw [ite_not]
  exact if_congr (headD_lt_iff a ha hne) rfl rfl

theorem fromSlice_eq (s : Bytes) (hs : AllBytes s) (hne : s ≠ []) (hl : s.length ≤ 20) :
    fromSlice s = if toNatBE s * 2 < 256 ^ 20 then .ok (List.replicate (20 - s.length) 0 ++ s)
      else .error .long := by
  have hlen : (List.replicate (20 - s.length) 0 ++ s).length = 20 := by
    rw [List.length_append, List.length_replicate, Nat.sub_add_cancel hl]
  unfold fromSlice
  rw [if_neg hne, if_neg (Nat.not_lt.2 hl),
    fromArray_eq _ (allBytes_append.2 ⟨allBytes_replicate _, hs⟩) (mt List.append_eq_nil_iff.1 fun h => hne h.2),
    hlen, toNatBE_pad]

/-- `decodeSerialContent` accepts the minimal non-negative two's-complement forms of at most 20 octets
and pads them on the left. -/
theorem decodeSerialContent_minimal (c : Bytes) (hc : AllBytes c) (hne : c ≠ []) (hl : c.length ≤ 20)
    (hh : c.headD 0 < 128) (hmin : ¬ (c.length ≥ 2 ∧ c.headD 0 = 0 ∧ c.getD 1 0 < 128)) :
    decodeSerialContent c = some (List.replicate (20 - c.length) 0 ++ c) := by
  have hv : toNatBE c * 2 < 256 ^ 20 :=
    Nat.lt_of_lt_of_le
      ((headD_lt_iff c hc hne).1 ((top_bit_clear_iff (Nat.lt_trans hh (by decide))).2 hh))
      (Nat.pow_le_pow_right (by decide) hl)
  have hs : fromSlice c = .ok (List.replicate (20 - c.length) 0 ++ c) := by
    rw [fromSlice_eq c hc hne hl, if_pos hv]
  unfold decodeSerialContent
  cases c with
  | nil => exact absurd rfl hne
  | cons b0 rest =>
    have hh : ¬ b0 ≥ 128 := Nat.not_le.2 hh
    dsimp only
    rw [if_neg hh]
    cases rest with
    | nil => rw [hs]; rfl
    | cons b1 r =>
      have hmin : ¬ (b0 = 0 ∧ b1 < 128) := fun h => hmin ⟨Nat.le_add_left 2 _, h⟩
      dsimp only
      rw [if_neg hmin, hs]; rfl

theorem fnz_spec (a : Bytes) (i : Nat) :
    (a = List.replicate a.length 0 ∧ firstNonZero a i = 19) ∨
    ∃ k x rest, a = List.replicate k 0 ++ x :: rest ∧ x ≠ 0 ∧ firstNonZero a i = i + k := by
  fun_induction firstNonZero a i
  · exact .inl ⟨rfl, rfl⟩
  · rename_i i _ ih
    rcases ih with ⟨e, h⟩ | ⟨k, x, rest, e, hx, h⟩
    · exact .inl ⟨congrArg (0 :: ·) e, h⟩
    · exact .inr ⟨k + 1, x, rest, congrArg (0 :: ·) e, hx, by rw [h]; omega⟩
  · exact .inr ⟨0, _, _, rfl, ‹_›, rfl⟩
theorem fnz_allzero (a : Bytes) (i : Nat) (h : ∀ b ∈ a, b = 0) : firstNonZero a i = 19 := by
  rcases fnz_spec a i with ⟨_, e⟩ | ⟨k, x, rest, e, hx, _⟩
  · exact e
  · exact absurd (h x (by rw [e]; simp)) hx

/-- The DER content produced for a serial decodes back to that serial, and is the minimal
non-negative two's-complement form: no redundant leading zero octet, top bit clear. -/
theorem der_roundtrip' (a : Bytes) (ha : VS a) :
    decodeSerialContent (encodeContent a) = some a ∧
    toNatBE (encodeContent a) = toNatBE a ∧ (encodeContent a).headD 0 < 128 ∧ encodeContent a ≠ [] ∧
    ¬ ((encodeContent a).length ≥ 2 ∧ (encodeContent a).headD 0 = 0 ∧ (encodeContent a).getD 1 0 < 128) := by
  obtain ⟨hlen, hbytes, hval⟩ := ha
  -- it is enough that the content is `a` without some of its leading zeros, and minimal
  suffices h : ∃ c, encodeContent a = c ∧ c ≠ [] ∧ c.headD 0 < 128 ∧
      ¬ (c.length ≥ 2 ∧ c.headD 0 = 0 ∧ c.getD 1 0 < 128) ∧ List.replicate (20 - c.length) 0 ++ c = a by
    obtain ⟨c, hc, hne, hh, hmin, hpad⟩ := h
    have hcb : AllBytes c := by rw [← hpad] at hbytes; exact (allBytes_append.1 hbytes).2
    have hl : c.length ≤ 20 := by
      rw [← hlen, ← hpad, List.length_append]; exact Nat.le_add_left _ _
    rw [hc]
    exact ⟨by rw [decodeSerialContent_minimal c hcb hne hl hh hmin, hpad], by rw [← hpad, toNatBE_pad],
      hh, hne, hmin⟩
  rcases fnz_spec a 0 with ⟨e, _⟩ | ⟨k, x, rest, rfl, hx, hst⟩
  · rw [e, hlen]
    exact ⟨[0], by decide⟩
  · have hl : k + (rest.length + 1) = 20 := by
      rw [List.length_append, List.length_replicate] at hlen; exact hlen
    have htop := top_bit_clear_iff (hbytes x (by simp))
    rw [Nat.zero_add] at hst
    have hstart : encodeContent (List.replicate k 0 ++ x :: rest) =
        (List.replicate k 0 ++ x :: rest).drop (if x / 128 % 2 ≠ 0 then k - 1 else k) := by
      unfold encodeContent start
      dsimp only
      rw [hst, List.getD_eq_getElem?_getD, List.getElem?_append_right (Nat.le_of_eq List.length_replicate),
        List.length_replicate, Nat.sub_self]
      rfl
    rcases Nat.lt_or_ge x 128 with hs | hb
    · rw [if_neg (not_not_intro (htop.2 hs)), List.drop_left' List.length_replicate] at hstart
      refine ⟨_, hstart, List.cons_ne_nil _ _, hs, fun h => hx h.2.1, ?_⟩
      rw [List.length_cons, ← hl, Nat.add_sub_cancel]
    · have hbig : x / 128 % 2 ≠ 0 := mt htop.1 (Nat.not_lt.2 hb)
      obtain ⟨j, rfl⟩ : ∃ j, k = j + 1 := by
        cases k with
        | zero =>
          exact absurd ((headD_lt_iff _ hbytes (List.cons_ne_nil _ _)).2 (by rw [hlen]; exact hval)) hbig
        | succ j => exact ⟨j, rfl⟩
      have hc : encodeContent (List.replicate (j + 1) 0 ++ x :: rest) = 0 :: x :: rest := by
        rw [hstart, if_pos hbig, Nat.add_sub_cancel, List.replicate_succ', List.append_assoc,
          List.drop_left' List.length_replicate]
        rfl
      refine ⟨_, hc, List.cons_ne_nil _ _, (by decide : (0 : Nat) < 128),
        fun h => Nat.not_lt.2 hb h.2.2, ?_⟩
      rw [List.replicate_succ', List.append_assoc]
      congr 2
      rw [← hl, List.length_cons, List.length_cons, Nat.add_right_comm j 1, Nat.add_assoc j,
        Nat.add_sub_cancel]
end Rpki.X509
