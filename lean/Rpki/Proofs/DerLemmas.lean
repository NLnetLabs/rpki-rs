import Rpki.Model.Der
import Rpki.Proofs.ListLemmas
/-! The readers of `Model/Der.lean` on what `encLen` and `tlv` wrote, as `Reads r w out` (both `r (w ++ rest) = out rest`
and `r w = out []`; no bound on the content length is needed, which the prime on `readLen_encLen'`, `readTlv_tlv'`
marks); the loops over a SEQUENCE OF on the encodings of a list of items, among them `itemsLoop`, which the RFC 3779
codecs show their `blocksLoop` equal to; the parity of a counting pass and the later iteration (no `unwrap()` fails). -/
namespace Rpki.Der

-- the codecs and the decoder lemmas call these some forty times under `open Rpki.Der`
export Rpki.Lists (ite_eq_cases ite_eq_right ite_eq_left length_le_flatten_map)

theorem encLen_shape (n : Nat) : ∃ h t, encLen n = h :: t ∧ h ≠ 0x80 ∧ t.length ≤ 4 := by
  unfold encLen
  by_cases h1 : n < 0x80
  · rw [if_pos h1]; exact ⟨_, _, rfl, Nat.ne_of_lt h1, Nat.zero_le _⟩
  rw [if_neg h1]
  by_cases h2 : n < 0x100
  · rw [if_pos h2]; exact ⟨_, _, rfl, by decide, Nat.le_of_ble_eq_true rfl⟩
  rw [if_neg h2]
  by_cases h3 : n < 0x10000
  · rw [if_pos h3]; exact ⟨_, _, rfl, by decide, Nat.le_of_ble_eq_true rfl⟩
  rw [if_neg h3]
  by_cases h4 : n < 0x1000000
  · rw [if_pos h4]; exact ⟨_, _, rfl, by decide, Nat.le_of_ble_eq_true rfl⟩
  rw [if_neg h4]; exact ⟨_, _, rfl, by decide, Nat.le_of_ble_eq_true rfl⟩

theorem encLen_length (n : Nat) : 1 ≤ (encLen n).length ∧ (encLen n).length ≤ 5 := by
  obtain ⟨h, t, e, _, ht⟩ := encLen_shape n
  rw [e, List.length_cons]
  omega

/-- Octets are naturals in the model: `encLen` puts the whole quotient `n / 2^24` into the first octet of the
four-octet form and `readLen` reads it back, so no bound on `n` is needed. -/
theorem readLen_encLen' (n : Nat) (rest : Bytes) : readLen (encLen n ++ rest) = some (n, rest) := by
  unfold encLen
  by_cases h1 : n < 0x80
  · rw [if_pos h1]; exact if_pos h1
  rw [if_neg h1]
  by_cases h2 : n < 0x100
  · rw [if_pos h2]
    unfold readLen
    simp only [List.cons_append, List.nil_append, Nat.reduceLT, if_false, if_true, gt_iff_lt]
    rw [if_pos (by omega)]
  rw [if_neg h2]
  have d0 : n / 256 * 256 + n % 256 = n := Nat.div_add_mod' n 256
  by_cases h3 : n < 0x10000
  · rw [if_pos h3]
    unfold readLen
    simp only [List.cons_append, List.nil_append, Nat.reduceLT, Nat.reduceEqDiff, if_false, if_true, gt_iff_lt]
    rw [d0, if_pos (by omega)]
  rw [if_neg h3]
  have d1 : n / 65536 * 65536 + n / 256 % 256 * 256 + n % 256 = n := by
    have t := Nat.div_add_mod' (n / 256) 256
    rw [Nat.div_div_eq_div_mul] at t
    have := d0
    rw [← t, Nat.add_mul, Nat.mul_assoc] at this
    exact this
  by_cases h4 : n < 0x1000000
  · rw [if_pos h4]
    unfold readLen
    simp only [List.cons_append, List.nil_append, Nat.reduceLT, Nat.reduceEqDiff, if_false, if_true, gt_iff_lt]
    rw [d1, if_pos (by omega)]
  rw [if_neg h4]
  have d2 : n / 16777216 * 16777216 + n / 65536 % 256 * 65536 + n / 256 % 256 * 256 + n % 256 = n := by
    have t := Nat.div_add_mod' (n / 65536) 256
    rw [Nat.div_div_eq_div_mul] at t
    have := d1
    rw [← t, Nat.add_mul, Nat.mul_assoc] at this
    exact this
  unfold readLen
  simp only [List.cons_append, List.nil_append, Nat.reduceLT, Nat.reduceEqDiff, if_false, if_true, gt_iff_lt]
  rw [d2, if_pos (by omega)]

theorem tlv_append (t : Nat) (c rest : Bytes) :
    tlv t c ++ rest = t :: (encLen c.length ++ (c ++ rest)) := by
  simp [tlv, List.append_assoc]

theorem tlv_ne_nil (t : Nat) (c : Bytes) : tlv t c ≠ [] := List.cons_ne_nil _ _

theorem tlv_append_ne_nil (t : Nat) (c rest : Bytes) : tlv t c ++ rest ≠ [] := List.cons_ne_nil _ _

theorem items_length_le (tag : Nat) (items : List Bytes) : items.length ≤ ((items.map (tlv tag)).flatten).length :=
  length_le_flatten_map _ (tlv_ne_nil tag) items

theorem tlv_length (t : Nat) (c : Bytes) :
    c.length + 2 ≤ (tlv t c).length ∧ (tlv t c).length ≤ c.length + 6 := by
  have := encLen_length c.length
  simp only [tlv, List.length_cons, List.length_append]
  omega

theorem readTlv_tlv' (t : Nat) (c rest : Bytes) (ht : t % 32 ≠ 31 := by decide) :
    readTlv (tlv t c ++ rest) = some (t, c, rest) := by
  rw [tlv_append]
  unfold readTlv
  simp only [ht, if_false, readLen_encLen', List.length_append, Nat.not_lt.2 (Nat.le_add_right _ _), List.take_left',
    List.drop_left']

theorem tagNoCons_prim {t : Nat} (h : isCons t = false) : tagNoCons t = t := by
  simp only [isCons, decide_eq_false_iff_not] at h
  simp only [tagNoCons, h, if_false]

/-- Reader `r` answers `out rest` on the written octets `w` followed by any `rest`. The second half is the case
`rest = []`, kept beside the first so that the one fact rewrites both `r (w ++ rest)` and `r w`. -/
abbrev Reads {β : Type} (r : Bytes → β) (w : Bytes) (out : Bytes → β) : Prop :=
  (∀ rest, r (w ++ rest) = out rest) ∧ r w = out []

theorem Reads.of {β : Type} {r : Bytes → β} {w : Bytes} {out : Bytes → β} (h : ∀ rest, r (w ++ rest) = out rest) :
    Reads r w out :=
  ⟨h, List.append_nil w ▸ h []⟩

theorem readTlv_reads (t : Nat) (c : Bytes) (ht : t % 32 ≠ 31 := by decide) :
    Reads readTlv (tlv t c) fun rest => some (t, c, rest) :=
  .of fun rest => readTlv_tlv' t c rest ht

theorem takeOptCons_reads (tag : Nat) (c : Bytes)
    (ht : tag % 32 ≠ 31 := by decide) (hcons : isCons tag = true := by decide) :
    Reads (takeOptCons tag) (tlv tag c) (.ok c) := .of fun rest => by
  have hr := readTlv_tlv' tag c rest ht
  rw [tlv_append] at hr ⊢
  simp only [takeOptCons, ht, if_false, ne_eq, not_true_eq_false, hcons, Bool.not_true, Bool.false_eq_true, hr]

theorem takeOptPrim_reads (tag : Nat) (c : Bytes)
    (ht : tag % 32 ≠ 31 := by decide) (hprim : isCons tag = false := by decide) :
    Reads (takeOptPrim tag) (tlv tag c) (.ok c) := .of fun rest => by
  have hr := readTlv_tlv' tag c rest ht
  rw [tlv_append] at hr ⊢
  simp only [takeOptPrim, ht, if_false, ne_eq, tagNoCons_prim hprim, not_true_eq_false, hprim, Bool.false_eq_true, hr]

theorem takeCons_reads (tag : Nat) (c : Bytes)
    (ht : tag % 32 ≠ 31 := by decide) (hcons : isCons tag = true := by decide) :
    Reads (takeCons tag) (tlv tag c) fun rest => some (c, rest) := .of fun rest => by
  simp only [takeCons, (takeOptCons_reads tag c ht hcons).1 rest]

theorem takePrim_reads (tag : Nat) (c : Bytes)
    (ht : tag % 32 ≠ 31 := by decide) (hprim : isCons tag = false := by decide) :
    Reads (takePrim tag) (tlv tag c) fun rest => some (c, rest) := .of fun rest => by
  simp only [takePrim, (takeOptPrim_reads tag c ht hprim).1 rest]

theorem takeOptPrim_reads_other (tag t : Nat) (c : Bytes) (ht : t % 32 ≠ 31 := by decide)
    (hne : tagNoCons t ≠ tag := by decide) : Reads (takeOptPrim tag) (tlv t c) fun _ => .absent := .of fun rest => by
  rw [tlv_append]
  simp only [takeOptPrim, ht, if_false, ne_eq, hne, not_false_eq_true, if_true]

theorem takeOptCons_reads_other (tag t : Nat) (c : Bytes) (ht : t % 32 ≠ 31 := by decide)
    (hne : tagNoCons t ≠ tagNoCons tag := by decide) : Reads (takeOptCons tag) (tlv t c) fun _ => .absent :=
  .of fun rest => by
    rw [tlv_append]
    simp only [takeOptCons, ht, if_false, ne_eq, hne, not_false_eq_true, if_true]

/-- the loop of `AsBlocks::parse_cons_content` and `IpBlocks::take_from_with_family`: items are taken off
the front until none is left -/
def itemsLoop {α : Type} (take : Bytes → Take α) : Nat → Bytes → Option (List α)
  | 0, b => if b = [] then some [] else none
  | fuel + 1, b =>
    match take b with
    | .absent => some []
    | .bad => none
    | .ok v rest => (itemsLoop take fuel rest).map (v :: ·)

theorem itemsLoop_flatten {α : Type} (take : Bytes → Take α) (enc : α → Bytes) (hnil : take [] = .absent) :
    ∀ (items : List α) (fuel : Nat), items.length ≤ fuel →
      (∀ a ∈ items, ∀ rest, take (enc a ++ rest) = .ok a rest) →
      itemsLoop take fuel ((items.map enc).flatten) = some items := by
  intro items
  induction items with
  | nil => intro fuel _ _; cases fuel <;> simp only [itemsLoop, List.map_nil, List.flatten_nil, hnil, if_true]
  | cons a items ih =>
    intro fuel hf h
    cases fuel with
    | zero => exact absurd hf (Nat.not_succ_le_zero _)
    | succ f =>
      rw [List.map_cons, List.flatten_cons, itemsLoop, h a (List.mem_cons_self ..)]
      show (itemsLoop take f _).map _ = _
      rw [ih f (Nat.le_of_succ_le_succ hf) (fun x hx => h x (List.mem_cons_of_mem _ hx))]
      rfl

theorem itemsLoop_sound {α : Type} {take : Bytes → Take α} {P : Bytes → Prop} {Q : α → Prop}
    (h : ∀ b, P b → ∀ v rest, take b = .ok v rest → Q v ∧ P rest)
    (fuel : Nat) (b : Bytes) (l : List α) (hb : P b) (hl : itemsLoop take fuel b = some l) : ∀ v ∈ l, Q v := by
  fun_induction itemsLoop take fuel b generalizing l <;> try (cases hl; done)
  · cases hl; exact nofun
  · cases hl; exact nofun
  · rename_i ih
    obtain ⟨hv, hrest⟩ := h _ hb _ _ ‹_›
    obtain ⟨l', hr, rfl⟩ := Option.map_eq_some_iff.1 hl
    exact List.forall_mem_cons.2 ⟨hv, ih l' hrest hr⟩

theorem iteratePass_flatten {α : Type} (take : Bytes → Take α) (enc : α → Bytes) (hnil : take [] = .absent) :
    ∀ (items : List α) (fuel : Nat), items.length ≤ fuel →
      (∀ a ∈ items, ∀ rest, take (enc a ++ rest) = .ok a rest) →
      iteratePass take fuel ((items.map enc).flatten) = some items := by
  intro items
  induction items with
  | nil => intro fuel _ _; cases fuel <;> simp only [iteratePass, List.map_nil, List.flatten_nil, hnil]
  | cons a items ih =>
    intro fuel hf h
    cases fuel with
    | zero => exact absurd hf (Nat.not_succ_le_zero _)
    | succ f =>
      rw [List.map_cons, List.flatten_cons, iteratePass, h a (List.mem_cons_self ..)]
      show (iteratePass take f _).map _ = _
      rw [ih f (Nat.le_of_succ_le_succ hf) (fun x hx => h x (List.mem_cons_of_mem _ hx))]
      rfl

theorem capturePass_flatten {α β : Type} (take : Bytes → Take β) (check : β → Bool) (enc : α → Bytes)
    (hnil : take [] = .absent) :
    ∀ (items : List α) (fuel n : Nat), items.length ≤ fuel →
      (∀ a ∈ items, ∃ v, (∀ rest, take (enc a ++ rest) = .ok v rest) ∧ check v = true) →
      capturePass take check fuel ((items.map enc).flatten) n = some (n + items.length) := by
  intro items
  induction items with
  | nil =>
    intro fuel n _ _
    cases fuel <;> simp only [capturePass, List.map_nil, List.flatten_nil, hnil, if_true, List.length_nil, Nat.add_zero]
  | cons a items ih =>
    intro fuel n hf h
    cases fuel with
    | zero => exact absurd hf (Nat.not_succ_le_zero _)
    | succ f =>
      obtain ⟨v, h1, h2⟩ := h a (List.mem_cons_self ..)
      rw [List.map_cons, List.flatten_cons, capturePass, h1]
      simp only [h2, if_true]
      rw [ih f (n + 1) (Nat.le_of_succ_le_succ hf) (fun x hx => h x (List.mem_cons_of_mem _ hx)), List.length_cons,
        Nat.add_assoc, Nat.add_comm 1]

theorem readAll_encodeAll (items : List (Nat × Bytes)) (h : ∀ p ∈ items, p.1 % 32 ≠ 31) :
    ∀ fuel, items.length ≤ fuel → readAll fuel (encodeAll items) = some items := by
  induction items with
  | nil => intro fuel _; cases fuel <;> rfl
  | cons p ps ih =>
    intro fuel hf
    cases fuel with
    | zero => exact absurd hf (Nat.not_succ_le_zero _)
    | succ f =>
      show readAll (f + 1) (tlv p.1 p.2 ++ encodeAll ps) = _
      rw [readAll, if_neg (tlv_append_ne_nil _ _ _), readTlv_tlv' p.1 p.2 _ (h p (List.mem_cons_self ..))]
      show (readAll f (encodeAll ps)).map _ = _
      rw [ih (fun q hq => h q (List.mem_cons_of_mem _ hq)) f (Nat.le_of_succ_le_succ hf)]
      rfl

/-- The counting pass of a capturing decoder may use another item reader (`skip`) than the later iteration (`take`):
when whatever `skip` accepts and `check` lets through is an item for `take` with property `Q`, and `take` sees the end
where `skip` does, an accepted capture iterates cleanly, to as many items as were counted, all with `Q`. -/
theorem capturePass_iteratePass {α β : Type} (skip : Bytes → Take β) (check : β → Bool) (take : Bytes → Take α)
    (Q : α → Prop) (habs : ∀ b, skip b = .absent → take b = .absent)
    (hok : ∀ b u rest, skip b = .ok u rest → check u = true → ∃ a, take b = .ok a rest ∧ Q a)
    (fuel : Nat) (b : Bytes) (n k : Nat) (h : capturePass skip check fuel b n = some k) :
    ∃ items, iteratePass take fuel b = some items ∧ items.length + n = k ∧ ∀ a ∈ items, Q a := by
  fun_induction capturePass skip check fuel b n <;> try (cases h; done)
  · cases h; exact ⟨[], rfl, Nat.zero_add _, nofun⟩
  · cases h; exact ⟨[], by rw [iteratePass, habs _ ‹_›], Nat.zero_add _, nofun⟩
  · rename_i ih
    obtain ⟨a, ha, hq⟩ := hok _ _ _ ‹_› ‹_›
    obtain ⟨items, h1, h2, h3⟩ := ih h
    exact ⟨a :: items, by rw [iteratePass, ha]; exact congrArg (Option.map (a :: ·)) h1,
      by rw [List.length_cons, Nat.add_right_comm]; exact h2, List.forall_mem_cons.2 ⟨hq, h3⟩⟩

/-- capture / iterate parity of the capturing decoders that count with the reader they iterate with (stated as a
property theorem in `Props/C04.lean`) -/
theorem capture_iterate_parity {α : Type} (take : Bytes → Take α) (check : α → Bool) :
    ∀ (fuel : Nat) (b : Bytes) (n k : Nat), capturePass take check fuel b n = some k →
      ∃ items, iteratePass take fuel b = some items ∧ items.length + n = k ∧ ∀ a ∈ items, check a = true :=
  capturePass_iteratePass take check take (check · = true) (fun _ h => h) fun _ u _ h hc => ⟨u, h, hc⟩

end Rpki.Der
