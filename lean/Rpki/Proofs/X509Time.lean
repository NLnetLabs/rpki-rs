/-
Times in certificates (`Time` and `Validity` in `Rpki/Model/X509.lean`): what `encodeVaried` writes for a
civil time both decoders read back, what a decoder accepts is the text `pad2`/`pad4` write for its result,
and `verify_at` accepts exactly the instants of the closed window.
-/
import Rpki.Model.X509
import Rpki.Proofs.Positional
namespace Rpki.X509
open Rpki.Consts Rpki.Arith

/-- the value read from rpki-rs on every run; the lemmas on `rustU32` below hold for it -/
theorem digitsOnly : timeDigitsOnly = true := rfl

theorem rustU32_digits (s : Bytes) : rustU32 s = if s ≠ [] ∧ s.all isDigit then some (digitsVal s 0) else none := by
  unfold rustU32; simp [digitsOnly]

theorem isDigit_iff (b : Nat) : isDigit b = true ↔ ∃ d, d < 10 ∧ b = 48 + d := by
  unfold isDigit
  rw [Bool.and_eq_true, decide_eq_true_eq, decide_eq_true_eq]
  exact ⟨fun h => ⟨b - 48, Nat.sub_lt_left_of_lt_add h.1 (Nat.lt_succ_of_le h.2),
      (Nat.add_sub_cancel' h.1).symm⟩,
    fun ⟨d, h, e⟩ => e ▸ ⟨Nat.le_add_right 48 d, Nat.add_le_add_left (Nat.le_of_lt_succ h) 48⟩⟩

/-- the characters `0`…`9` written for a list of decimal digits -/
abbrev chars (ds : List Nat) : Bytes := ds.map (48 + ·)

theorem all_isDigit_iff : ∀ s : Bytes, s.all isDigit = true ↔ ∃ ds, (∀ d ∈ ds, d < 10) ∧ s = chars ds
  | [] => iff_of_true rfl ⟨[], nofun, rfl⟩
  | c :: s => by
    rw [List.all_cons, Bool.and_eq_true, isDigit_iff, all_isDigit_iff s]
    constructor
    · rintro ⟨⟨d, hd, rfl⟩, ds, hds, rfl⟩
      exact ⟨d :: ds, List.forall_mem_cons.2 ⟨hd, hds⟩, rfl⟩
    · rintro ⟨ds, hds, e⟩
      cases ds with
      | nil => cases e
      | cons d ds =>
        cases e
        exact ⟨⟨d, hds d List.mem_cons_self, rfl⟩, ds, fun x hx => hds x (List.mem_cons_of_mem _ hx), rfl⟩

theorem digitsVal_chars (ds : List Nat) (acc : Nat) :
    digitsVal (chars ds) acc = acc * 10 ^ ds.length + ofDigits 10 ds := by
  rw [← foldl_digits]
  induction ds generalizing acc with
  | nil => rfl
  | cons d ds ih => rw [chars, List.map_cons, digitsVal, Nat.add_sub_cancel_left, List.foldl_cons]; exact ih _

theorem digitsVal_append (a b : Bytes) (acc : Nat) :
    digitsVal (a ++ b) acc = digitsVal b (digitsVal a acc) := by
  induction a generalizing acc with
  | nil => rfl
  | cons x xs ih => simp only [List.cons_append, digitsVal, ih]

theorem digitsVal_ge (t : Bytes) (acc : Nat) : acc ≤ digitsVal t acc := by
  induction t generalizing acc with
  | nil => exact Nat.le_refl _
  | cons x xs ih =>
    exact Nat.le_trans (Nat.le_trans (Nat.le_mul_of_pos_right acc (by decide)) (Nat.le_add_right _ _))
      (ih _)

theorem pad2_chars (n : Nat) : pad2 n = chars (digitsBE 10 2 n) := by
  rw [digitsBE_succ, digitsBE_succ]
  rfl

theorem pad4_chars (n : Nat) : pad4 n = chars (digitsBE 10 4 n) := by
  have e2 : n / 10 / 10 = n / 100 := Nat.div_div_eq_div_mul n 10 10
  have e3 : n / 10 / 10 / 10 = n / 1000 := e2 ▸ Nat.div_div_eq_div_mul n 100 10
  rw [digitsBE_succ, digitsBE_succ, digitsBE_succ, digitsBE_succ, e3, e2]
  rfl

theorem pad4_eq (n : Nat) : pad4 n = pad2 (n / 100) ++ pad2 (n % 100) := by
  have e1 : n / 1000 = n / 100 / 10 := (Nat.div_div_eq_div_mul n 100 10).symm
  have e2 : n % 100 / 10 = n / 10 % 10 := Nat.mod_mul_right_div_self n 10 10
  have e3 : n % 100 % 10 = n % 10 := Nat.mod_mod_of_dvd n (by decide)
  unfold pad4 pad2
  rw [e1, e2, e3, Nat.mod_mod]
  rfl

/-- `read_two_char` / `read_four_char` on a digit string followed by anything -/
theorem readChars_append (ds rest : Bytes) (hne : ds ≠ []) (hd : ds.all isDigit = true) :
    readChars ds.length (ds ++ rest) = some (digitsVal ds 0, rest) := by
  unfold readChars
  rw [if_neg (by rw [List.length_append]; omega), List.take_left', List.drop_left', rustU32_digits,
    if_pos ⟨hne, hd⟩] <;> rfl

theorem readChars_inv (n : Nat) (src : Bytes) (v : Nat) (rest : Bytes)
    (h : readChars n src = some (v, rest)) :
    ∃ ds, src = ds ++ rest ∧ ds.length = n ∧ ds.all isDigit = true ∧ v = digitsVal ds 0 := by
  revert h
  fun_cases readChars n src <;> intro h <;> cases h
  have hr := ‹rustU32 _ = some _›
  rw [rustU32_digits] at hr
  split at hr
  · cases hr
    exact ⟨_, (List.take_append_drop n src).symm, List.length_take_of_le (Nat.le_of_not_lt ‹_›), ‹_ ∧ _›.2, rfl⟩
  · cases hr

/-- `read_two_char` / `read_four_char` read a number below `10 ^ w` back from its `w` digits -/
theorem readChars_digitsBE (w n : Nat) (rest : Bytes) (hw : 0 < w) (h : n < 10 ^ w) :
    readChars w (chars (digitsBE 10 w n) ++ rest) = some (n, rest) := by
  have hl : (chars (digitsBE 10 w n)).length = w := (List.length_map _).trans (digitsBE_length 10 w n)
  have := readChars_append (chars (digitsBE 10 w n)) rest (List.ne_nil_of_length_pos (by rw [hl]; exact hw))
    ((all_isDigit_iff _).2 ⟨_, digitsBE_lt (by decide) w n, rfl⟩)
  rwa [hl, digitsVal_chars, Nat.zero_mul, Nat.zero_add, ofDigits_digitsBE_lt h] at this

theorem readChars_eq_some (w : Nat) (src : Bytes) (v : Nat) (rest : Bytes) (h : readChars w src = some (v, rest)) :
    src = chars (digitsBE 10 w v) ++ rest ∧ v < 10 ^ w := by
  obtain ⟨s, rfl, hl, hd, rfl⟩ := readChars_inv w src v rest h
  obtain ⟨ds, hds, rfl⟩ := (all_isDigit_iff s).1 hd
  rw [chars, List.length_map] at hl
  rw [digitsVal_chars, Nat.zero_mul, Nat.zero_add, ← hl, digitsBE_ofDigits (by decide) hds]
  exact ⟨rfl, ofDigits_lt hds⟩

theorem readChars_pad2 (n : Nat) (rest : Bytes) (h : n < 100) : readChars 2 (pad2 n ++ rest) = some (n, rest) :=
  pad2_chars n ▸ readChars_digitsBE 2 n rest (by decide) h

theorem readChars_pad4 (n : Nat) (rest : Bytes) (h : n < 10000) : readChars 4 (pad4 n ++ rest) = some (n, rest) :=
  pad4_chars n ▸ readChars_digitsBE 4 n rest (by decide) h

theorem readChars2_iff {src : Bytes} {v : Nat} {rest : Bytes} :
    readChars 2 src = some (v, rest) ↔ src = pad2 v ++ rest ∧ v < 100 :=
  ⟨fun h => pad2_chars v ▸ readChars_eq_some 2 src v rest h, fun ⟨e, h⟩ => e ▸ readChars_pad2 v rest h⟩

theorem readChars4_inv (src : Bytes) (v : Nat) (rest : Bytes) (h : readChars 4 src = some (v, rest)) :
    src = pad4 v ++ rest ∧ v < 10000 :=
  pad4_chars v ▸ readChars_eq_some 4 src v rest h

theorem daysIn_le (y m : Nat) : daysIn y m ≤ 31 :=
  Arith.ite_le (Nat.le_refl _) (Arith.ite_le (by decide)
    (Arith.ite_le (Arith.ite_le (by decide) (by decide)) (by decide)))

theorem isLeap_iff (y : Nat) : isLeap y = true ↔ (y % 4 = 0 ∧ y % 100 ≠ 0) ∨ y % 400 = 0 := by
  simp [isLeap]

theorem daysIn_feb (y : Nat) : 28 ≤ daysIn y 2 ∧ daysIn y 2 ≤ 29 := by
  have : daysIn y 2 = if isLeap y then 29 else 28 := rfl
  rw [this]
  cases isLeap y <;> decide

theorem daysIn_other (y y' m : Nat) (h : m ≠ 2) : daysIn y' m = daysIn y m := by
  simp [daysIn, h]

theorem validCivil_iff {c : Civil} : validCivil c = true ↔
    1 ≤ c.m ∧ c.m ≤ 12 ∧ 1 ≤ c.d ∧ c.d ≤ daysIn c.y c.m ∧ c.h < 24 ∧ c.mi < 60 ∧ c.s < 60 := by
  simp only [validCivil, Bool.and_eq_true, decide_eq_true_eq, and_assoc]

theorem readRest_render (c : Civil) (hv : validCivil c = true) :
    readRest c.y (pad2 c.m ++ pad2 c.d ++ pad2 c.h ++ pad2 c.mi ++ pad2 c.s ++ [90]) = some c := by
  have ⟨_, h1, _, h2, h3, h4, h5⟩ := validCivil_iff.1 hv
  unfold readRest
  simp only [List.append_assoc]
  rw [readChars_pad2 _ _ (Nat.lt_of_le_of_lt h1 (by decide))]; dsimp only
  rw [readChars_pad2 _ _ (Nat.lt_of_le_of_lt (Nat.le_trans h2 (daysIn_le c.y c.m)) (by decide))]; dsimp only
  rw [readChars_pad2 _ _ (Nat.lt_trans h3 (by decide))]; dsimp only
  rw [readChars_pad2 _ _ (Nat.lt_trans h4 (by decide))]; dsimp only
  rw [readChars_pad2 _ _ (Nat.lt_trans h5 (by decide))]; dsimp only
  rw [if_pos rfl, if_pos hv]

/-- Every calendar second of the years 0–9999 encodes and decodes back to the same civil time
(for both decoders, which carry their own pivot constant). -/
theorem time_roundtrip_with (pivot : Nat) (hp : pivot = 50) (c : Civil) (hv : validCivil c = true) (hy : c.y ≤ 9999) :
    decodeTimeWith pivot (encodeVaried c).1 (encodeVaried c).2 = some c := by
  subst hp
  unfold encodeVaried utcYearMin utcYearMax
  dsimp only
  by_cases hw : c.y < 1950 ∨ c.y > 2049
  · rw [if_pos hw]
    unfold decodeTimeWith
    dsimp only
    rw [readChars_pad4 _ _ (by omega)]
    exact readRest_render c hv
  · rw [if_neg hw]
    unfold decodeTimeWith
    dsimp only
    rw [readChars_pad2 _ _ (Nat.mod_lt _ (by decide))]
    dsimp only
    rw [show (if c.y % 100 ≥ 50 then c.y % 100 + 1900 else c.y % 100 + 2000) = c.y by split <;> omega]
    exact readRest_render c hv

theorem readRest_inv (y : Nat) (src : Bytes) (c : Civil) (h : readRest y src = some c) :
    validCivil c = true ∧ c.y = y ∧
    src = pad2 c.m ++ pad2 c.d ++ pad2 c.h ++ pad2 c.mi ++ pad2 c.s ++ [90] := by
  revert h
  fun_cases readRest y src <;> intro h
  case case6 =>
    rw [← Option.some.inj h]
    -- each of the five readers took two digits off the front and handed on the rest
    simp only [readChars2_iff] at *
    refine ⟨‹validCivil _ = true›, rfl, ?_⟩
    simp only [*, List.append_assoc]
    rfl
  all_goals cases h

theorem verifyAt_ok_iff (v : Validity) (now : Int) : verifyAt v now = .ok () ↔ v.nb ≤ now ∧ now ≤ v.na := by
  unfold verifyAt
  by_cases h1 : now < v.nb
  · rw [if_pos h1]
    exact iff_of_false nofun fun h => Int.not_le.2 h1 h.1
  · rw [if_neg h1]
    by_cases h2 : now > v.na
    · rw [if_pos h2]
      exact iff_of_false nofun fun h => Int.not_le.2 h2 h.2
    · rw [if_neg h2]
      exact iff_of_true rfl ⟨Int.not_lt.1 h1, Int.not_lt.1 h2⟩

theorem verifyAt_accepts_iff (v : Validity) (now : Int) :
    (match verifyAt v now with | .ok _ => true | .error _ => false) = true ↔ v.nb ≤ now ∧ now ≤ v.na := by
  rw [← verifyAt_ok_iff]
  cases verifyAt v now with
  | error e => exact ⟨nofun, nofun⟩
  | ok u => exact ⟨fun _ => rfl, fun _ => rfl⟩

end Rpki.X509
