/-
`Payload::read` on input it did not write. Every body reader is framed by the header's length field
(`Framed`), so an accepted PDU took exactly the announced number of bytes and a stream cut short inside one
ends in end-of-file; the loop that skips the rest of a PDU ends however the reads are chunked.
-/
import Rpki.Proofs.RtrPduCodec
namespace Rpki.Rtr
open Rpki.Consts

/-- A reader is framed by the length field: it either rejects the header whatever follows, or takes
exactly the bytes the header announces (end of file if fewer are there) and yields a PDU with that
header. -/
def Framed (rd : Bytes → Except RErr (Item × Bytes)) (h : Hdr) : Prop :=
  (∀ s, rd s = .error .invalid) ∨
  ∃ n, h.length = sizeHeader + n ∧
    ∀ s, if s.length < n then rd s = .error .eof
      else ∃ it, it.hdr = h ∧ rd s = .ok (it, s.drop n)

theorem framed_of_readBody (rd : Bytes → Except RErr (Item × Bytes)) (h : Hdr) (size : Nat) (mk : Bytes → Item)
    (hs : sizeHeader ≤ size)
    (hrd : ∀ s, rd s = match readBody h size s with
      | .error e => .error e
      | .ok (b, rest) => .ok (mk b, rest))
    (hh : ∀ b, (mk b).hdr = h) : Framed rd h := by
  by_cases hl : h.length = size
  · refine Or.inr ⟨size - sizeHeader, by rw [hl, Nat.add_sub_cancel' hs], fun s => ?_⟩
    split
    next hlt => rw [hrd, readBody, if_neg (fun hne => hne hl), readExact_short _ _ hlt]
    next hlt =>
      rw [hrd, readBody, if_neg (fun hne => hne hl), readExact_of_le _ _ (Nat.not_lt.1 hlt)]
      exact ⟨_, hh _, rfl⟩
  · exact Or.inl fun s => by rw [hrd, readBody, if_pos hl]

theorem framed_of_reads (rd : Bytes → Except RErr (Item × Bytes)) (h : Hdr) (n m : Nat) (mk : Bytes → Bytes → Item)
    (hn : h.length = sizeHeader + (n + m))
    (hrd : ∀ s, rd s = match readExact n s with
      | .error e => .error e
      | .ok (b, r) => match readExact m r with
        | .error e => .error e
        | .ok (c, rest) => .ok (mk b c, rest))
    (hh : ∀ b c, (mk b c).hdr = h) : Framed rd h := by
  refine Or.inr ⟨n + m, hn, fun s => ?_⟩
  rw [hrd]
  split
  next hs =>
    rcases Nat.lt_or_ge s.length n with hl | hl
    · rw [readExact_short _ _ hl]
    · rw [readExact_of_le _ _ hl]
      simp only
      rw [readExact_short _ _ (by rw [List.length_drop]; exact Nat.sub_lt_left_of_lt_add hl hs)]
  next hs =>
    rw [readExact_of_le s n (Nat.le_trans (Nat.le_add_right n m) (Nat.not_lt.1 hs))]
    simp only
    rw [readExact_of_le _ m (by rw [List.length_drop]; exact Nat.le_sub_of_add_le' (Nat.not_lt.1 hs)),
      List.drop_drop]
    exact ⟨_, hh _ _, rfl⟩

theorem readV4_framed (h : Hdr) : Framed (readV4 h) h :=
  framed_of_readBody _ h sizeIpv4Prefix _ (by decide) (fun _ => rfl) fun _ => rfl

theorem readV6_framed (h : Hdr) : Framed (readV6 h) h :=
  framed_of_readBody _ h sizeIpv6Prefix _ (by decide) (fun _ => rfl) fun _ => rfl

theorem readEod_framed (h : Hdr) : Framed (readEod h) h := by
  by_cases h0 : h.version = 0
  · exact framed_of_readBody _ h sizeEndOfDataV0 _ (by decide) (fun s => by rw [readEod, if_pos h0]; rfl) fun _ => rfl
  · by_cases h1 : h.version = 1 ∨ h.version = 2
    · exact framed_of_readBody _ h sizeEndOfDataV1 _ (by decide) (fun s => by rw [readEod, if_neg h0, if_pos h1]; rfl)
        fun _ => rfl
    · exact Or.inl fun s => by rw [readEod, if_neg h0, if_neg h1]

theorem readKey_framed (h : Hdr) : Framed (readKey h) h := by
  by_cases hl : h.length < sizeRouterKeyFixed
  · exact Or.inl fun s => by rw [readKey, if_pos hl]
  · exact framed_of_reads _ h (sizeRouterKeyFixed - sizeHeader) (h.length - sizeRouterKeyFixed) _
      ((Nat.add_assoc 8 24 _).symm.trans (Nat.add_sub_of_le (Nat.not_lt.1 hl))).symm
      (fun s => by rw [readKey, if_neg hl]; rfl) fun _ _ => rfl

theorem readAspa_framed (h : Hdr) : Framed (readAspa h) h := by
  by_cases hl : h.length < sizeAspaFixed
  · exact Or.inl fun s => by rw [readAspa, if_pos hl]
  by_cases hm : (h.length - sizeAspaFixed) % 4 ≠ 0
  · exact Or.inl fun s => by rw [readAspa, if_neg hl, if_pos hm]
  · exact framed_of_reads _ h (sizeAspaFixed - sizeHeader) (h.length - sizeAspaFixed) _
      ((Nat.add_assoc 8 4 _).symm.trans (Nat.add_sub_of_le (Nat.not_lt.1 hl))).symm
      (fun s => by rw [readAspa, if_neg hl, if_neg hm]; rfl) fun _ _ => rfl

theorem readItem_framed (h : Hdr) : Framed (readItem h) h := by
  by_cases h4 : h.pdu = pduIpv4Prefix
  · rw [readItem_v4 h4]; exact readV4_framed h
  by_cases h6 : h.pdu = pduIpv6Prefix
  · rw [readItem_v6 h6]; exact readV6_framed h
  by_cases hk : h.pdu = pduRouterKey
  · rw [readItem_key hk]; exact readKey_framed h
  by_cases ha : h.pdu = pduAspa
  · rw [readItem_aspa ha]; exact readAspa_framed h
  by_cases he : h.pdu = pduEndOfData
  · rw [readItem_eod he]; exact readEod_framed h
  · exact Or.inl fun s => by rw [readItem, if_neg h4, if_neg h6, if_neg hk, if_neg ha, if_neg he]

theorem readPayload_short (s : Bytes) (h : s.length < 8) : readPayload s = .error .eof := by
  rw [readPayload, readHdr_short s h]

theorem readPayload_of_le (s : Bytes) (h : 8 ≤ s.length) :
    readPayload s = readItem (decHdr (s.take 8)) (s.drop 8) := by
  rw [readPayload, readHdr_of_le s h]

/-- The last part is for a stream cut short: fewer than the announced octets end in end-of-file. -/
theorem readPayload_ok {s : Bytes} {it : Item} {rest : Bytes} (e : readPayload s = .ok (it, rest)) :
    8 ≤ s.length ∧ it.hdr = decHdr (s.take 8) ∧ ∃ n, it.hdr.length = 8 + n ∧ n ≤ (s.drop 8).length ∧
      rest = (s.drop 8).drop n ∧ ∀ s', s'.length < n → readItem it.hdr s' = .error .eof := by
  rcases Nat.lt_or_ge s.length 8 with h8 | h8
  · rw [readPayload_short s h8] at e; cases e
  rw [readPayload_of_le s h8] at e
  rcases readItem_framed (decHdr (s.take 8)) with hi | ⟨n, hn, ht⟩
  · rw [hi] at e; cases e
  have := ht (s.drop 8)
  split at this
  · rw [e] at this; cases this
  next hlt =>
    obtain ⟨it', hh, hr⟩ := this
    rw [e] at hr
    cases hr
    exact ⟨h8, hh, n, hh ▸ hn, Nat.not_lt.1 hlt, rfl, fun s' hs' => by
      have := ht s'; rwa [if_pos hs', ← hh] at this⟩

theorem readPayload_consumed (s : Bytes) (it : Item) (rest : Bytes) (e : readPayload s = .ok (it, rest)) :
    ∃ used, s = used ++ rest ∧ used.length = it.hdr.length ∧ 8 ≤ used.length ∧ it.hdr = decHdr (s.take 8) := by
  obtain ⟨h8, hh, n, hn, hle, rfl, -⟩ := readPayload_ok e
  rw [List.length_drop] at hle
  have hl : (s.take (8 + n)).length = 8 + n := List.length_take_of_le (by omega)
  exact ⟨s.take (8 + n), by rw [List.drop_drop, List.take_append_drop], hl.trans hn.symm,
    hl.symm ▸ Nat.le_add_right 8 n, hh⟩

theorem readExact_take_short (a : Bytes) (n k : Nat) (hk : k < n) : readExact n (a.take k) = .error .eof :=
  readExact_short _ _ (Nat.lt_of_le_of_lt (List.length_take_le k a) hk)

theorem readPayload_prefix (t : Bytes) (it : Item) (rest : Bytes) (h : readPayload t = .ok (it, rest))
    (k : Nat) (hk : k < it.hdr.length) : readPayload (t.take k) = .error .eof := by
  obtain ⟨ht8, hh, n, hn, -, -, heof⟩ := readPayload_ok h
  rcases Nat.lt_or_ge k 8 with h8 | h8
  · exact readPayload_short _ (Nat.lt_of_le_of_lt (List.length_take_le k _) h8)
  rw [readPayload_of_le _ (by rw [List.length_take]; exact Nat.le_min.2 ⟨h8, ht8⟩), List.take_take,
    Nat.min_eq_left h8, ← hh]
  refine heof _ ?_
  rw [List.length_drop]
  exact Nat.sub_lt_left_of_lt_add (by rw [List.length_take]; exact Nat.le_min.2 ⟨h8, ht8⟩)
    (Nat.lt_of_le_of_lt (List.length_take_le k t) (hn ▸ hk))

/-- the value read from src/rtr/pdu.rs; `skipLoop_spec` is for a loop that checks for a read of nothing -/
theorem eofChecked : skipEofChecked = true := rfl

theorem rawRead_le (want chunk : Nat) (s : Bytes) :
    rawRead want chunk s ≤ want ∧ rawRead want chunk s ≤ s.length :=
  ⟨Nat.min_le_left _ _, Nat.le_trans (Nat.min_le_right _ _) (Nat.min_le_right _ _)⟩

theorem rawRead_pos {want chunk : Nat} {s : Bytes} (hw : 0 < want) (hs : 0 < s.length) :
    0 < rawRead want chunk s :=
  Nat.lt_min.2 ⟨hw, Nat.lt_min.2 ⟨Nat.lt_of_lt_of_le Nat.one_pos (Nat.le_max_right _ _), hs⟩⟩

theorem skipLoop_spec (fuel remaining : Nat) (s : Bytes) (sched : List Nat) (hlt : remaining < fuel) :
    skipLoop fuel remaining s sched =
      some (if remaining ≤ s.length then .ok (s.drop remaining) else .error .eof) := by
  fun_induction skipLoop fuel remaining s sched
  case case1 => cases hlt
  case case2 => rw [if_pos (Nat.zero_le _)]; rfl
  case case3 remaining s sched h0 want n hz =>
    -- a read of nothing with something wanted: the stream is at its end
    have hs : s.length = 0 := Nat.eq_zero_of_not_pos fun hs =>
      Nat.ne_of_gt (rawRead_pos (Nat.lt_min.2 ⟨Nat.pos_of_ne_zero h0, by decide⟩) hs) hz.1
    rw [if_neg (fun hle => h0 (Nat.le_zero.1 (hs ▸ hle)))]
  case case4 f remaining s sched h0 want n hz ih =>
    have hp : 0 < n := Nat.pos_of_ne_zero fun e => hz ⟨e, eofChecked⟩
    have ⟨hn1, hn2⟩ := rawRead_le want (sched.headD skipBufSize) s
    replace hn1 : n ≤ remaining := Nat.le_trans hn1 (Nat.min_le_left _ _)
    rw [ih (Nat.lt_of_lt_of_le (Nat.sub_lt (Nat.pos_of_ne_zero h0) hp) (Nat.le_of_lt_succ hlt)),
      List.length_drop, List.drop_drop, Nat.add_sub_cancel' hn1]
    by_cases hle : remaining ≤ s.length
    · rw [if_pos hle, if_pos (Nat.sub_le_sub_right hle n)]
    · rw [if_neg hle, if_neg (fun h => hle ((Nat.sub_le_sub_iff_right hn2).1 h))]

end Rpki.Rtr
