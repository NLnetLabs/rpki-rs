import Rpki.Model.Chain
import Rpki.Proofs.NatLemmas
/-! `AddressRange::to_v4_prefixes` / `to_v6_prefixes` cut a range into prefixes by taking, at every step, the largest
aligned block at the current start that still fits. The block size first grows with the alignment of the start and, once
the end of the range is what limits it, shrinks at every step: that is why `2 * W + 1` iterations suffice. First, what
`leading_zeros`, `trailing_zeros` and `trailing_ones` say of a word, as `into_prefix` and `to_prefixes` use them. -/
namespace Rpki.Chain

theorem leadingZeros_le (W x : Nat) : leadingZeros W x ≤ W := by
  unfold leadingZeros
  split
  · exact Nat.le_refl _
  · exact Nat.sub_le _ _

/-- `into_prefix` reports `len` exactly when the bounds share `len` leading bits and the range is the
aligned block of that size at `lo` -/
theorem intoPrefix_eq_some {W lo hi len : Nat} : intoPrefix W lo hi = some len ↔
    leadingZeros W (Nat.xor lo hi) = len ∧ lo / 2 ^ (W - len) * 2 ^ (W - len) = lo ∧
      lo / 2 ^ (W - len) * 2 ^ (W - len) + (2 ^ (W - len) - 1) = hi := by
  unfold intoPrefix
  dsimp only
  constructor
  · intro h
    split at h
    · rename_i hc
      injection h with h
      subst h
      exact ⟨rfl, hc⟩
    · cases h
  · rintro ⟨rfl, h⟩
    exact if_pos h

theorem intoPrefix_some {W lo hi len : Nat} (h : intoPrefix W lo hi = some len) :
    len ≤ W ∧ lo / 2 ^ (W - len) * 2 ^ (W - len) = lo ∧ lo + (2 ^ (W - len) - 1) = hi := by
  obtain ⟨h0, h1, h2⟩ := intoPrefix_eq_some.1 h
  rw [h1] at h2
  exact ⟨h0 ▸ leadingZeros_le W _, h1, h2⟩

theorem intoPrefix_sound (W lo hi len : Nat) (h : intoPrefix W lo hi = some len) :
    lo % 2 ^ (W - len) = 0 ∧ hi = lo + 2 ^ (W - len) - 1 := by
  obtain ⟨-, h1, h2⟩ := intoPrefix_some h
  exact ⟨Nat.mod_eq_zero_of_dvd ⟨_, (Nat.mul_comm .. ▸ h1).symm⟩,
    h2.symm.trans (Nat.add_sub_assoc (Nat.two_pow_pos _) lo).symm⟩

theorem aligned_mono {a j k : Nat} (h : a % 2 ^ j = 0) (hk : k ≤ j) : a % 2 ^ k = 0 :=
  Arith.mod_eq_zero_of_dvd (Nat.pow_dvd_pow 2 hk) h

theorem trailingZerosAux_le : ∀ (f x : Nat), trailingZerosAux f x ≤ f := by
  intro f
  induction f with
  | zero => intro x; exact Nat.le_refl _
  | succ f ih =>
    intro x
    rw [trailingZerosAux]
    split
    · exact Nat.zero_le _
    · have := ih (x / 2); omega

theorem trailingZerosAux_ge : ∀ (f m x : Nat), m ≤ f →
    (m ≤ trailingZerosAux f x ↔ x % 2 ^ m = 0) := by
  intro f
  induction f with
  | zero =>
    intro m x hm
    obtain rfl : m = 0 := Nat.le_zero.1 hm
    exact ⟨fun _ => Nat.mod_one x, fun _ => Nat.zero_le _⟩
  | succ f ih =>
    intro m x hm
    cases m with
    | zero => exact ⟨fun _ => Nat.mod_one x, fun _ => Nat.zero_le _⟩
    | succ m =>
      have hmod : x % (2 * 2 ^ m) = x % 2 + 2 * (x / 2 % 2 ^ m) := Nat.mod_mul
      rw [trailingZerosAux, Nat.pow_succ', hmod]
      rcases Nat.mod_two_eq_zero_or_one x with h | h
      · rw [if_neg (h ▸ Nat.zero_ne_one), h, Nat.zero_add, Nat.add_comm 1, Nat.succ_le_succ_iff,
          ih m (x / 2) (Nat.le_of_succ_le_succ hm), Nat.mul_eq_zero, or_iff_right (by decide)]
      · rw [if_pos h, h]
        exact ⟨fun h' => absurd h' (Nat.not_succ_le_zero m), fun h' => absurd h' (by omega)⟩

theorem trailingOnesAux_eq : ∀ (f x : Nat), trailingOnesAux f x = trailingZerosAux f (x + 1) := by
  intro f
  induction f with
  | zero => exact fun _ => rfl
  | succ f ih =>
    intro x
    rw [trailingOnesAux, trailingZerosAux, Nat.add_mod]
    rcases Nat.mod_two_eq_zero_or_one x with h | h
    · rw [h, if_pos rfl, if_pos rfl]
    · rw [h, if_neg (by decide), if_neg (by decide), ih, show (x + 1) / 2 = x / 2 + 1 by omega]

theorem trailingOnesAux_le (f x : Nat) : trailingOnesAux f x ≤ f :=
  trailingOnesAux_eq f x ▸ trailingZerosAux_le f (x + 1)

theorem trailingOnesAux_ge_succ (f m x : Nat) (hm : m ≤ f) :
    m ≤ trailingOnesAux f x ↔ x % 2 ^ m + 1 = 2 ^ m := by
  rw [trailingOnesAux_eq, trailingZerosAux_ge f m _ hm, Arith.succ_mod_eq_zero (Nat.two_pow_pos m)]

theorem trailingOnesAux_ge (f m x : Nat) (hm : m ≤ f) :
    m ≤ trailingOnesAux f x ↔ x % 2 ^ m = 2 ^ m - 1 := by
  have := Nat.two_pow_pos m
  rw [trailingOnesAux_ge_succ f m x hm]
  omega

theorem trailingZeros_le (W x : Nat) : trailingZeros W x ≤ W := by
  unfold trailingZeros
  split
  · exact Nat.le_refl _
  · exact trailingZerosAux_le W x

theorem trailingZeros_ge {W m x : Nat} (hm : m ≤ W) :
    m ≤ trailingZeros W x ↔ x % 2 ^ m = 0 := by
  unfold trailingZeros
  split
  · rename_i h0
    rw [h0]
    exact ⟨fun _ => Nat.zero_mod _, fun _ => hm⟩
  · exact trailingZerosAux_ge W m x hm

theorem trailingZeros_dvd (W x : Nat) : x % 2 ^ trailingZeros W x = 0 :=
  (trailingZeros_ge (trailingZeros_le W x)).1 (Nat.le_refl _)

theorem xor_eq_zero_imp {a b : Nat} (h : a ^^^ b = 0) : a = b := by
  have h1 : (a ^^^ b) ^^^ b = a := by rw [Nat.xor_assoc, Nat.xor_self, Nat.xor_zero]
  rw [h, Nat.zero_xor] at h1
  exact h1.symm

theorem xor_aligned_add (k q r : Nat) (hr : r < 2 ^ k) : (2 ^ k * q) ^^^ (2 ^ k * q + r) = r := by
  apply Nat.eq_of_testBit_eq
  intro j
  rw [Nat.testBit_xor]
  have h0 : 2 ^ k * q = 2 ^ k * q + 0 := rfl
  rw [Nat.testBit_two_pow_mul_add q hr j]
  conv => lhs; lhs; rw [h0, Nat.testBit_two_pow_mul_add q (Nat.pow_pos (by decide)) j]
  by_cases hj : j < k
  · simp [hj]
  · have hkj : k ≤ j := by omega
    have : r.testBit j = false :=
      Nat.testBit_lt_two_pow (Nat.lt_of_lt_of_le hr (Nat.pow_le_pow_right (by decide) hkj))
    simp [hj, this]

theorem leadingZeros_two_pow_sub_one (W k : Nat) : leadingZeros W (2 ^ k - 1) = W - k := by
  unfold leadingZeros
  cases k with
  | zero => rfl
  | succ k =>
    have hlt : 2 ^ (k + 1) - 1 < 2 ^ (k + 1) := Nat.sub_lt (Nat.two_pow_pos _) Nat.one_pos
    have hle : 2 ^ k ≤ 2 ^ (k + 1) - 1 :=
      Nat.le_sub_one_of_lt (Nat.pow_lt_pow_right (by decide) (Nat.lt_succ_self k))
    have hne : 2 ^ (k + 1) - 1 ≠ 0 := Nat.ne_of_gt (Nat.lt_of_lt_of_le (Nat.two_pow_pos k) hle)
    rw [if_neg hne, Nat.le_antisymm (Nat.le_of_lt_succ ((Nat.log2_lt hne).2 hlt)) ((Nat.le_log2 hne).2 hle)]

theorem intoPrefix_complete (W k lo : Nat) (hk : k ≤ W) (hal : lo % 2 ^ k = 0) :
    intoPrefix W lo (lo + 2 ^ k - 1) = some (W - k) := by
  have hd : lo / 2 ^ k * 2 ^ k = lo := Nat.div_mul_cancel (Nat.dvd_of_mod_eq_zero hal)
  have he : lo + 2 ^ k - 1 = lo + (2 ^ k - 1) := Nat.add_sub_assoc (Nat.two_pow_pos k) lo
  have hx : Nat.xor lo (lo + 2 ^ k - 1) = 2 ^ k - 1 := by
    have h := xor_aligned_add k (lo / 2 ^ k) (2 ^ k - 1) (Nat.sub_lt (Nat.two_pow_pos k) Nat.one_pos)
    rwa [Nat.mul_comm, hd, ← he] at h
  apply intoPrefix_eq_some.2
  rw [hx, Nat.sub_sub_self hk, hd]
  exact ⟨leadingZeros_two_pow_sub_one W k, rfl, he.symm⟩

/-- `Nat.xor_div_two_pow` for the spelling `Nat.xor a b` of the model -/
theorem xor_div_two_pow (a b m : Nat) : Nat.xor a b / 2 ^ m = a / 2 ^ m ^^^ b / 2 ^ m :=
  Nat.xor_div_two_pow

theorem leadingZeros_spec {W x : Nat} (hx : x < 2 ^ W) :
    x / 2 ^ (W - leadingZeros W x) = 0 ∧
      (W - leadingZeros W x ≠ 0 → 0 < x / 2 ^ (W - leadingZeros W x - 1)) := by
  unfold leadingZeros
  by_cases h0 : x = 0
  · rw [if_pos h0, h0]
    exact ⟨Nat.zero_div _, fun h => absurd (Nat.sub_self W) h⟩
  · have hl : Nat.log2 x < W := (Nat.log2_lt h0).2 hx
    have hm : W - (W - (Nat.log2 x + 1)) = Nat.log2 x + 1 := Nat.sub_sub_self hl
    rw [if_neg h0, hm, Nat.add_sub_cancel]
    exact ⟨Nat.div_eq_of_lt Nat.lt_log2_self,
      fun _ => Nat.div_pos (Nat.log2_self_le h0) (Nat.two_pow_pos _)⟩

theorem fits_of_div_lt {a b k n : Nat} (hal : a % 2 ^ k = 0) (hk : k ≤ n)
    (h : a / 2 ^ n < b / 2 ^ n) : a + 2 ^ k ≤ b :=
  calc a + 2 ^ k ≤ (a / 2 ^ n + 1) * 2 ^ n :=
        Arith.add_le_of_dvd_lt (Nat.dvd_of_mod_eq_zero hal)
          (Nat.dvd_trans (Nat.pow_dvd_pow 2 hk) (Nat.dvd_mul_left _ _))
          (Nat.lt_mul_of_div_lt (Nat.lt_succ_self _) (Nat.two_pow_pos n))
    _ ≤ b / 2 ^ n * 2 ^ n := Nat.mul_le_mul_right _ h
    _ ≤ b := Nat.div_mul_le_self b (2 ^ n)

theorem fits_of_div_eq {a b m k : Nat} (heq : a / 2 ^ m = b / 2 ^ m) (hal : a % 2 ^ k = 0)
    (hk : m ≤ k) : a + 2 ^ k ≤ b + 1 ↔ k = m ∧ b % 2 ^ m + 1 = 2 ^ m := by
  have ha := Nat.div_add_mod a (2 ^ m)
  have hb := Nat.div_add_mod b (2 ^ m)
  have hlt := Nat.mod_lt b (Nat.two_pow_pos m)
  rw [aligned_mono hal hk, heq] at ha
  clear hal heq
  generalize 2 ^ m * (b / 2 ^ m) = X at ha hb
  generalize b % 2 ^ m = r at hb hlt ⊢
  subst ha hb
  rw [Nat.add_zero, Nat.add_assoc, Nat.add_le_add_iff_left]
  rcases Nat.eq_or_lt_of_le hk with rfl | hk'
  · exact ⟨fun h => ⟨rfl, Nat.le_antisymm (Nat.succ_le_of_lt hlt) h⟩, fun h => Nat.le_of_eq h.2.symm⟩
  · have : 2 * 2 ^ m ≤ 2 ^ k := Nat.pow_succ' ▸ Nat.pow_le_pow_right (by decide) hk'
    exact ⟨fun h => by omega, fun h => absurd h.1 (Nat.ne_of_gt hk')⟩

/-- the `max_allowed` of `to_prefixes`: how many host bits a block at `start` may have without passing `stop` -/
def maxAllowed (W start stop : Nat) : Nat :=
  if trailingOnes W stop < W - leadingZeros W (Nat.xor start stop)
  then W - leadingZeros W (Nat.xor start stop) - 1 else W - leadingZeros W (Nat.xor start stop)

/-- the `if` is the body of `maxAllowed` -/
theorem le_cap {t m k : Nat} : k ≤ (if t < m then m - 1 else m) ↔ k < m ∨ k = m ∧ m ≤ t := by
  split
  · rename_i h
    rw [Nat.le_sub_one_iff_lt (Nat.zero_lt_of_lt h)]
    exact ⟨Or.inl, fun h' => h'.elim id fun h' => absurd h (Nat.not_lt.2 h'.2)⟩
  · rename_i h
    rw [Nat.le_iff_lt_or_eq]
    exact or_congr_right ⟨fun e => ⟨e, Nat.le_of_not_lt h⟩, And.left⟩

theorem maxAllowed_spec (W start stop : Nat) (h1 : start ≤ stop) (h2 : stop < 2 ^ W) :
    maxAllowed W start stop ≤ W ∧
      ∀ k, start % 2 ^ k = 0 → (start + 2 ^ k ≤ stop + 1 ↔ k ≤ maxAllowed W start stop) := by
  obtain ⟨ha, hb⟩ := leadingZeros_spec (x := Nat.xor start stop)
    (Nat.xor_lt_two_pow (Nat.lt_of_le_of_lt h1 h2) h2)
  have hto := trailingOnesAux_ge_succ W (W - leadingZeros W (Nat.xor start stop)) stop (Nat.sub_le _ _)
  have hmW : W - leadingZeros W (Nat.xor start stop) ≤ W := Nat.sub_le _ _
  unfold maxAllowed trailingOnes
  generalize W - leadingZeros W (Nat.xor start stop) = m at *
  -- `m` bits reach up to the highest one in which the two differ: they agree above bit `m - 1` and, unless
  -- equal, differ at it
  rw [xor_div_two_pow] at ha hb
  have heq : start / 2 ^ m = stop / 2 ^ m := xor_eq_zero_imp ha
  have hne : m ≠ 0 → start / 2 ^ (m - 1) < stop / 2 ^ (m - 1) := fun h =>
    (Nat.lt_or_eq_of_le (Nat.div_le_div_right h1)).resolve_right fun e => by
      have := hb h
      rw [e, Nat.xor_self] at this
      exact Nat.lt_irrefl 0 this
  refine ⟨Nat.le_trans (by split; exact Nat.sub_le _ _; exact Nat.le_refl _) hmW, fun k hal => ?_⟩
  rw [le_cap]
  rcases Nat.lt_or_ge k m with hk | hk
  · exact ⟨fun _ => Or.inl hk, fun _ => Nat.le_succ_of_le
      (fits_of_div_lt hal (Nat.le_sub_one_of_lt hk) (hne (Nat.ne_zero_of_lt hk)))⟩
  · rw [fits_of_div_eq heq hal hk, ← hto]
    exact ⟨Or.inr, fun h => h.resolve_left (Nat.not_lt.2 hk)⟩

/-- the host bits of the block one iteration takes (`same` in the model): limited by the alignment of `start` and by `stop` -/
def stepBits (W start stop : Nat) : Nat := min (trailingZeros W start) (maxAllowed W start stop)

theorem toPrefixes_succ (W fuel start stop : Nat) :
    toPrefixes W (fuel + 1) start stop =
      if start > stop then [] else
        (start, W - stepBits W start stop) ::
          (if start / 2 ^ stepBits W start stop * 2 ^ stepBits W start stop
                + (2 ^ stepBits W start stop - 1) = stop then []
           else toPrefixes W fuel (start + 2 ^ stepBits W start stop) stop) := rfl

theorem stepBits_spec (W start stop : Nat) (h1 : start ≤ stop) (h2 : stop < 2 ^ W) (k : Nat) :
    k ≤ stepBits W start stop ↔ start % 2 ^ k = 0 ∧ start + 2 ^ k ≤ stop + 1 := by
  obtain ⟨hmaW, hma⟩ := maxAllowed_spec W start stop h1 h2
  rw [stepBits, Nat.le_min]
  constructor
  · rintro ⟨hk1, hk2⟩
    have hal := (trailingZeros_ge (Nat.le_trans hk2 hmaW)).1 hk1
    exact ⟨hal, (hma k hal).2 hk2⟩
  · rintro ⟨hal, hfit⟩
    have hk2 := (hma k hal).1 hfit
    exact ⟨(trailingZeros_ge (Nat.le_trans hk2 hmaW)).2 hal, hk2⟩

/-- first and last address of a prefix given as `(address, length)` -/
def pfxLo (_W : Nat) (p : Nat × Nat) : Nat := p.1
def pfxHi (W : Nat) (p : Nat × Nat) : Nat := p.1 + 2 ^ (W - p.2) - 1

/-- `l` tiles `[start, stop]`: consecutive aligned blocks, each a valid prefix (`len ≤ W`, address
aligned to its size), the first starting at `start`, each next one starting right after the previous
one ends, the last ending exactly at `stop`; the empty list tiles only the empty range -/
def Tiles (W : Nat) : List (Nat × Nat) → Nat → Nat → Prop
  | [], start, stop => start > stop
  | [p], start, stop => p.1 = start ∧ p.2 ≤ W ∧ p.1 % 2 ^ (W - p.2) = 0 ∧ pfxHi W p = stop
  | p :: q :: rest, start, stop =>
      p.1 = start ∧ p.2 ≤ W ∧ p.1 % 2 ^ (W - p.2) = 0 ∧ pfxHi W p < stop ∧
        Tiles W (q :: rest) (pfxHi W p + 1) stop

theorem tiles_cons (W : Nat) (p : Nat × Nat) (l : List (Nat × Nat)) (start stop : Nat)
    (h1 : p.1 = start) (h2 : p.2 ≤ W) (h3 : p.1 % 2 ^ (W - p.2) = 0) (h4 : pfxHi W p < stop)
    (h5 : Tiles W l (pfxHi W p + 1) stop) : Tiles W (p :: l) start stop := by
  cases l with
  | nil => exact absurd h5 (Nat.not_lt.2 (Nat.succ_le_of_lt h4))
  | cons q rest => exact ⟨h1, h2, h3, h4, h5⟩

/-- one iteration as the three inductions on the fuel see it: `k` is `stepBits`, known only by what `stepBits_spec` says -/
theorem tiles_step (W fuel start stop : Nat) (h1 : start ≤ stop) (h2 : stop < 2 ^ W) :
    ∃ k, k ≤ W ∧ start % 2 ^ k = 0 ∧ start + 2 ^ k ≤ stop + 1 ∧
      (∀ j, start % 2 ^ j = 0 → start + 2 ^ j ≤ stop + 1 → j ≤ k) ∧
      ((start + 2 ^ k ≤ stop →
          Tiles W (toPrefixes W fuel (start + 2 ^ k) stop) (start + 2 ^ k) stop) →
        Tiles W (toPrefixes W (fuel + 1) start stop) start stop) := by
  have hspec := stepBits_spec W start stop h1 h2
  obtain ⟨hal, hfit⟩ := (hspec _).1 (Nat.le_refl _)
  have hsW : stepBits W start stop ≤ W :=
    Nat.le_trans (Nat.min_le_right _ _) (maxAllowed_spec W start stop h1 h2).1
  have hsucc := toPrefixes_succ W fuel start stop
  have hWs : W - (W - stepBits W start stop) = stepBits W start stop := Nat.sub_sub_self hsW
  generalize stepBits W start stop = k at *
  refine ⟨k, hsW, hal, hfit, fun j h h' => (hspec j).2 ⟨h, h'⟩, fun ih => ?_⟩
  have e : start + 2 ^ k - 1 + 1 = start + 2 ^ k :=
    Nat.sub_add_cancel (Nat.le_add_left_of_le (Nat.two_pow_pos k))
  have hpm : start / 2 ^ k * 2 ^ k + (2 ^ k - 1) = start + 2 ^ k - 1 := by
    rw [Nat.div_mul_cancel (Nat.dvd_of_mod_eq_zero hal), Nat.add_sub_assoc (Nat.two_pow_pos k)]
  have hhi : pfxHi W (start, W - k) = start + 2 ^ k - 1 := by rw [pfxHi, hWs]
  have hal' : start % 2 ^ (W - (W - k)) = 0 := hWs.symm ▸ hal
  rw [hsucc, if_neg (Nat.not_lt.2 h1), hpm]
  by_cases he : start + 2 ^ k - 1 = stop
  · rw [if_pos he]
    exact ⟨rfl, Nat.sub_le _ _, hal', hhi.trans he⟩
  · rw [if_neg he]
    have hlt : start + 2 ^ k - 1 < stop :=
      Nat.lt_of_le_of_ne (Nat.le_of_succ_le_succ (e ▸ hfit)) he
    exact tiles_cons W _ _ start stop rfl (Nat.sub_le _ _) hal' (hhi ▸ hlt)
      (by rw [hhi, e]; exact ih (e ▸ hlt))

/-- by maximality of the block taken, the next larger aligned block overshoots the range -/
theorem overshoot {start stop k : Nat}
    (hmax : ∀ j, start % 2 ^ j = 0 → start + 2 ^ j ≤ stop + 1 → j ≤ k)
    (hal : start % 2 ^ (k + 1) = 0) : stop + 1 < start + 2 ^ k + 2 ^ k := by
  rw [Nat.add_assoc, ← Nat.two_mul, ← Nat.pow_succ']
  exact Nat.lt_of_not_le fun h => Nat.not_succ_le_self k (hmax _ hal h)

/-- `toPrefixes_tiles` with fuel for one iteration per address of the range in place of `2 * W + 1` -/
theorem toPrefixes_tiles_crude (W : Nat) : ∀ (fuel start stop : Nat), start ≤ stop → stop < 2 ^ W →
    stop - start + 1 ≤ fuel → Tiles W (toPrefixes W fuel start stop) start stop := by
  intro fuel
  induction fuel with
  | zero => intro start stop _ _ hf; omega
  | succ fuel ih =>
    intro start stop h1 h2 hf
    obtain ⟨k, -, -, -, -, hstep⟩ := tiles_step W fuel start stop h1 h2
    have hpos : 0 < 2 ^ k := Nat.two_pow_pos k
    exact hstep fun hlt => ih _ _ hlt h2 (by omega)

theorem aligned_add_self {a k : Nat} (h : a % 2 ^ k = 0) : (a + 2 ^ k) % 2 ^ k = 0 := by
  rw [Nat.add_mod_right]; exact h

theorem aligned_add_succ {a k : Nat} (h : a % 2 ^ k = 0) (h' : ¬ a % 2 ^ (k + 1) = 0) :
    (a + 2 ^ k) % 2 ^ (k + 1) = 0 := by
  have hm : a % 2 ^ (k + 1) = a % 2 ^ k + 2 ^ k * (a / 2 ^ k % 2) := Nat.mod_pow_succ
  have hlt : 2 ^ k < 2 ^ (k + 1) := Nat.pow_lt_pow_right (by decide) (Nat.lt_succ_self k)
  rcases Nat.mod_two_eq_zero_or_one (a / 2 ^ k) with e | e
  · rw [h, e] at hm; exact absurd hm h'
  · rw [h, e, Nat.zero_add, Nat.mul_one] at hm
    rw [Nat.add_mod, hm, Nat.mod_eq_of_lt hlt, ← Nat.two_mul, ← Nat.pow_succ', Nat.mod_self]

/-- shrinking phase: once the remaining range is shorter than `2^j` and starts `2^j`-aligned, every
block is smaller than the previous one, so `j` iterations suffice -/
theorem toPrefixes_tiles_shrink (W : Nat) : ∀ (fuel j start stop : Nat), start ≤ stop →
    stop < 2 ^ W → start % 2 ^ j = 0 → stop + 1 < start + 2 ^ j → j ≤ fuel →
    Tiles W (toPrefixes W fuel start stop) start stop := by
  intro fuel
  induction fuel with
  | zero =>
    intro j start stop h1 _ _ hlen hf
    rw [Nat.le_zero.1 hf] at hlen
    omega
  | succ fuel ih =>
    intro j start stop h1 h2 hal hlen hf
    obtain ⟨k, -, hkal, hfit, hmax, hstep⟩ := tiles_step W fuel start stop h1 h2
    refine hstep fun hlt => ?_
    have hkj : k < j := (Nat.pow_lt_pow_iff_right (a := 2) (by decide)).1
      (Nat.lt_of_add_lt_add_left (Nat.lt_of_le_of_lt hfit hlen))
    exact ih k _ _ hlt h2 (aligned_add_self hkal) (overshoot hmax (aligned_mono hal hkj))
      (Nat.le_of_lt_succ (Nat.lt_of_lt_of_le hkj hf))

/-- growing phase: while the block size is limited by the alignment of `start`, the alignment of the
next `start` is strictly larger; as soon as it is limited by the range instead, the shrinking phase
begins.  With `start` aligned to `2^i`, `2 * W + 1 - i` iterations suffice. -/
theorem toPrefixes_tiles_grow (W : Nat) : ∀ (fuel i start stop : Nat), i ≤ W →
    start ≤ stop → stop < 2 ^ W → start % 2 ^ i = 0 → 2 * W + 1 ≤ fuel + i →
    Tiles W (toPrefixes W fuel start stop) start stop := by
  intro fuel
  induction fuel with
  | zero => intro i start stop hiW _ _ _ hf; omega
  | succ fuel ih =>
    intro i start stop hiW h1 h2 hal hf
    have hWf : W ≤ fuel := by omega
    have hf' : ∀ k, i ≤ k → 2 * W + 1 ≤ fuel + (k + 1) := fun k hk => by omega
    obtain ⟨k, hkW, hkal, -, hmax, hstep⟩ := tiles_step W fuel start stop h1 h2
    refine hstep fun hlt => ?_
    by_cases hal' : start % 2 ^ (k + 1) = 0
    · exact toPrefixes_tiles_shrink W fuel k _ _ hlt h2 (aligned_add_self hkal) (overshoot hmax hal')
        (Nat.le_trans hkW hWf)
    · have hik : i ≤ k := Nat.le_of_not_lt fun h => hal' (aligned_mono hal h)
      have hal3 := aligned_add_succ hkal hal'
      have hk1 : k + 1 < W := (Nat.pow_lt_pow_iff_right (a := 2) (by decide)).1
        (Nat.lt_of_le_of_lt (Nat.le_of_dvd (Nat.add_pos_right _ (Nat.two_pow_pos k))
          (Nat.dvd_of_mod_eq_zero hal3)) (Nat.lt_of_le_of_lt hlt h2))
      exact ih (k + 1) _ _ (Nat.le_of_lt hk1) hlt h2 hal3 (hf' k hik)

theorem tiles_mem (W : Nat) : ∀ (l : List (Nat × Nat)) (start stop : Nat), start ≤ stop → Tiles W l start stop →
    ∀ x, (∃ p ∈ l, pfxLo W p ≤ x ∧ x ≤ pfxHi W p) ↔ (start ≤ x ∧ x ≤ stop) := by
  intro l
  induction l with
  | nil => intro _ _ h ht; exact absurd h (Nat.not_le.2 ht)
  | cons p l ih =>
    intro start stop _ ht x
    have hlo : p.1 ≤ pfxHi W p := Nat.le_sub_one_of_lt (Nat.lt_add_of_pos_right (Nat.two_pow_pos _))
    cases l with
    | nil =>
      obtain ⟨h1, _, _, h4⟩ := ht
      rw [← h1, ← h4]
      exact ⟨fun ⟨r, hr, hx⟩ => List.mem_singleton.1 hr ▸ hx, fun hx => ⟨p, List.mem_singleton.2 rfl, hx⟩⟩
    | cons q rest =>
      obtain ⟨h1, _, _, h4, h5⟩ := ht
      have hq := ih (pfxHi W p + 1) stop h4 h5 x
      rw [← h1]
      constructor
      · rintro ⟨r, hr, hx⟩
        rcases List.mem_cons.1 hr with rfl | e
        · exact ⟨hx.1, Nat.le_trans hx.2 (Nat.le_of_lt h4)⟩
        · have := hq.1 ⟨r, e, hx⟩
          exact ⟨by omega, this.2⟩
      · intro hx
        rcases Nat.lt_or_ge (pfxHi W p) x with h | h
        · obtain ⟨r, hr, hr2⟩ := hq.2 ⟨h, hx.2⟩
          exact ⟨r, List.mem_cons_of_mem _ hr, hr2⟩
        · exact ⟨p, List.mem_cons_self, hx.1, h⟩

theorem toPrefixes_tiles (W fuel start stop : Nat) (h1 : start ≤ stop) (h2 : stop < 2 ^ W)
    (hf : 2 * W + 1 ≤ fuel) : Tiles W (toPrefixes W fuel start stop) start stop :=
  toPrefixes_tiles_grow W fuel 0 start stop (Nat.zero_le W) h1 h2 (Nat.mod_one start) hf

end Rpki.Chain
