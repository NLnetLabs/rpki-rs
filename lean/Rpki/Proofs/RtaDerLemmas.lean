/-
  What `RtaDer.decodeRta` accepts: the three resource sets of the attestation are canonical chains, and every
  embedded CRL went through the counting pass of `RevokedCertificates::take_from`.
-/
import Rpki.Model.RtaDer
import Rpki.Proofs.CrlDerLemmas
import Rpki.Proofs.CmsDerLemmas
namespace Rpki.RtaDer
open Rpki.Der Rpki.CertDer Rpki.CmsDer Rpki.Chain

attribute [local irreducible] takeCons takePrim takeOptCons

theorem rtaBlocks_canon (W : Nat) (r : Bytes) (hr : AllBytes r) (bs : List Blk) (h : rtaBlocks W r = some bs) :
    Canon IpDer.maxAddr bs := by
  revert h
  fun_cases rtaBlocks W r <;> intro h <;> try cases h
  obtain ⟨l, hl, rfl⟩ := Option.map_eq_some_iff.1 h
  exact (fromIter_spec' IpDer.maxAddr l (IpDer.blocksLoop_sound W _ _ _
    (allBytes_of_sub hr (Der.takeCons_sub _ _ _ _ ‹takeCons _ r = some _›).1) hl)).1

/-- a resource set of the attestation, if read, is canonical -/
def OptCanon (M : Nat) : Option (List Blk) → Prop
  | some c => Canon M c
  | none => True

theorem OptCanon.getD {M : Nat} {o : Option (List Blk)} (h : OptCanon M o) : Canon M (o.getD []) := by
  cases o with
  | none => exact canon_nil M
  | some c => exact h

/-- the invariant of the loop over address families in `rtaIpRes` (not `CertDer.FamCanon`, which is about claims) -/
def FamCanon (s : Option (List Blk) × Option (List Blk)) : Prop := OptCanon IpDer.maxAddr s.1 ∧ OptCanon IpDer.maxAddr s.2

theorem rtaFamily_canon (s : Option (List Blk) × Option (List Blk)) (c : Bytes) (s' : Option (List Blk) × Option (List Blk))
    (hc : AllBytes c) (hs : FamCanon s) (h : rtaFamily s c = some s') : FamCanon s' := by
  revert h
  fun_cases rtaFamily s c <;> intro h <;> try cases h
  all_goals
    obtain ⟨bs, hb, rfl⟩ := Option.map_eq_some_iff.1 h
    have hcan := rtaBlocks_canon _ _ (allBytes_of_sub hc (Der.takePrim_sub _ _ _ _ ‹takePrim _ c = some _›).2) bs hb
  · exact ⟨hcan, hs.2⟩
  · exact ⟨hs.1, hcan⟩

theorem rtaAsRes_canon (rc : Bytes) (hb : AllBytes rc) (a : Option (List Blk)) (r1 : Bytes)
    (h : rtaAsRes rc = some (a, r1)) : OptCanon AsDer.maxAs a ∧ AllBytes r1 := by
  revert h
  fun_cases rtaAsRes rc <;> intro h <;> try (cases h; done)
  · cases h; exact ⟨trivial, hb⟩
  · obtain ⟨bs, hd, e⟩ := Option.map_eq_some_iff.1 h
    cases e
    obtain ⟨s1, s2⟩ := Der.takeOptCons_sub _ _ _ _ ‹takeOptCons _ rc = .ok _ _›
    exact ⟨AsDer.decodeBlocks_canon _ (allBytes_of_sub (allBytes_of_sub hb s1)
      (Der.takeCons_sub _ _ _ _ ‹takeCons _ _ = some _›).1) bs hd, allBytes_of_sub hb s2⟩

theorem rtaIpRes_canon (r1 : Bytes) (hb : AllBytes r1) (f : Option (List Blk) × Option (List Blk)) (r2 : Bytes)
    (h : rtaIpRes r1 = some (f, r2)) : FamCanon f := by
  revert h
  fun_cases rtaIpRes r1 <;> intro h <;> try (cases h; done)
  · cases h; exact ⟨trivial, trivial⟩
  · obtain ⟨res, hf, e⟩ := Option.map_eq_some_iff.1 h
    cases e
    exact foldCons_inv FamCanon tagSeq rtaFamily rtaFamily_canon _ _ (none, none) _
      (allBytes_of_sub (allBytes_of_sub hb (Der.takeOptCons_sub _ _ _ _ ‹takeOptCons _ r1 = .ok _ _›).1)
        (Der.takeCons_sub _ _ _ _ ‹takeCons _ _ = some _›).1) ⟨trivial, trivial⟩ hf

theorem takeResources_canon (rc : Bytes) (hb : AllBytes rc) (v4 v6 asn : List Blk)
    (h : takeResources rc = some (v4, v6, asn)) :
    Canon IpDer.maxAddr v4 ∧ Canon IpDer.maxAddr v6 ∧ Canon AsDer.maxAs asn := by
  revert h
  fun_cases takeResources rc <;> intro h <;> try (cases h; done)
  cases h
  obtain ⟨ca, hb1⟩ := rtaAsRes_canon rc hb _ _ ‹rtaAsRes rc = some _›
  have cf := rtaIpRes_canon _ hb1 _ _ ‹rtaIpRes _ = some _›
  exact ⟨cf.1.getD, cf.2.getD, ca.getD⟩

theorem rtaVersion_sub (c r0 : Bytes) (h : rtaVersion c = some r0) : r0 ⊆ c := by
  revert h
  fun_cases rtaVersion c <;> intro h <;> try (cases h; done)
  · cases h; exact List.Subset.refl _
  · cases h; exact (Der.takeOptCons_sub _ _ _ _ ‹takeOptCons _ c = .ok _ _›).2

theorem decodeAttestation_canon (b : Bytes) (hb : AllBytes b) (a : Attestation) (h : decodeAttestation b = some a) :
    Canon IpDer.maxAddr a.v4 ∧ Canon IpDer.maxAddr a.v6 ∧ Canon AsDer.maxAs a.asn := by
  revert h
  fun_cases decodeAttestation b <;> intro h <;> try (cases h; done)
  cases h
  have b0 := allBytes_of_sub hb (Der.takeCons_sub _ _ _ _ ‹takeCons _ b = some _›).1
  have b1 := allBytes_of_sub b0 (rtaVersion_sub _ _ ‹rtaVersion _ = some _›)
  have b2 := allBytes_of_sub b1 (Der.takeCons_sub _ _ _ _ ‹takeCons tagSet _ = some _›).2
  exact takeResources_canon _ (allBytes_of_sub b2 (Der.takeCons_sub _ _ _ _ ‹takeCons tagSeq _ = some (_, _)›).1)
    _ _ _ ‹takeResources _ = some _›

-- `_hc` is there to fit the step argument of `foldCons_inv`
theorem rtaCrl_inv (acc : List CrlDer.CrlD) (c : Bytes) (acc' : List CrlDer.CrlD) (_hc : AllBytes c)
    (hs : ∀ d ∈ acc, ∃ n, Crl.capture d.revoked = some n) (h : rtaCrl acc c = some acc') :
    ∀ d ∈ acc', ∃ n, Crl.capture d.revoked = some n := by
  unfold rtaCrl at h
  obtain ⟨d0, hi, rfl⟩ := Option.map_eq_some_iff.1 h
  intro d hd
  rcases List.mem_append.mp hd with h1 | h1
  · exact hs d h1
  · rw [List.mem_singleton.1 h1]; exact CrlDer.crlInner_revoked c _ hi

theorem rtaCrls_captured (r3 : Bytes) (hb : AllBytes r3) (l : List CrlDer.CrlD) (r4 : Bytes)
    (h : rtaCrls r3 = some (l, r4)) : ∀ d ∈ l, ∃ n, Crl.capture d.revoked = some n := by
  revert h
  fun_cases rtaCrls r3 <;> intro h <;> try (cases h; done)
  · cases h; exact nofun
  · obtain ⟨res, hf, e⟩ := Option.map_eq_some_iff.1 h
    cases e
    exact foldCons_inv (fun acc => ∀ d ∈ acc, ∃ n, Crl.capture d.revoked = some n) tagSeq rtaCrl rtaCrl_inv
      _ _ [] _ (allBytes_of_sub hb (Der.takeOptCons_sub _ _ _ _ ‹takeOptCons _ r3 = .ok _ _›).1) nofun hf

theorem rtaEncap_sub (r1 content r2 : Bytes) (h : rtaEncap r1 = some (content, r2)) :
    content ⊆ r1 ∧ r2 ⊆ r1 := by
  revert h
  fun_cases rtaEncap r1 <;> intro h <;> try (cases h; done)
  cases h
  obtain ⟨s0, s0'⟩ := Der.takeCons_sub _ _ _ _ ‹takeCons _ r1 = some _›
  have s1 := (Der.takePrim_sub _ _ _ _ ‹takePrim tagOid _ = some _›).2
  have s2 := (Der.takeCons_sub _ _ _ _ ‹takeCons 0xA0 _ = some _›).1
  have s3 := (Der.takePrim_sub _ _ _ _ ‹takePrim tagOctetString _ = some _›).1
  exact ⟨fun x hx => s0 x (s1 x (s2 x (s3 x hx))), s0'⟩

theorem rtaSignedData_spec (sd : Bytes) (hb : AllBytes sd) (content : Bytes) (certs : List Decoded)
    (crls : List CrlDer.CrlD) (signers : List Signer) (h : rtaSignedData sd = some (content, certs, crls, signers)) :
    AllBytes content ∧ ∀ d ∈ crls, ∃ n, Crl.capture d.revoked = some n := by
  revert h
  fun_cases rtaSignedData sd <;> intro h <;> try (cases h; done)
  cases h
  have b0 := allBytes_of_sub hb (skipU8_subM false 3 sd _ (skipU8M_false ▸ ‹skipU8 3 sd = some _›))
  have b1 := allBytes_of_sub b0 (Der.takeCons_sub _ _ _ _ ‹takeCons tagSet _ = some (_, _)›).2
  obtain ⟨s3, s3'⟩ := rtaEncap_sub _ _ _ ‹rtaEncap _ = some _›
  exact ⟨allBytes_of_sub b1 s3, rtaCrls_captured _
    (allBytes_of_sub (allBytes_of_sub b1 s3') (Der.takeCons_sub _ _ _ _ ‹takeCons 0xA0 _ = some _›).2) _ _
    ‹rtaCrls _ = some _›⟩

/-- Whatever `Rta::decode` accepts: canonical chains are what the block and count accessors rely on, and a CRL that
went through the counting pass cannot fail in lookups and iteration. -/
theorem decodeRta_spec (b : Bytes) (hb : AllBytes b) (r : RtaD) (h : decodeRta b = some r) :
    Canon IpDer.maxAddr r.att.v4 ∧ Canon IpDer.maxAddr r.att.v6 ∧ Canon AsDer.maxAs r.att.asn ∧
    ∀ d ∈ r.crls, ∃ n, Crl.capture d.revoked = some n := by
  revert h
  fun_cases decodeRta b <;> intro h <;> try cases h
  obtain ⟨att, h5, rfl⟩ := Option.map_eq_some_iff.1 h
  have b0 := allBytes_of_sub hb (Der.takeCons_sub _ _ _ _ ‹takeCons _ b = some _›).1
  have b1 := allBytes_of_sub b0 (Der.takePrim_sub _ _ _ _ ‹takePrim _ _ = some _›).2
  have b2 := allBytes_of_sub b1 (Der.takeCons_sub _ _ _ _ ‹takeCons 0xA0 _ = some _›).1
  have b3 := allBytes_of_sub b2 (Der.takeCons_sub _ _ _ _ ‹takeCons tagSeq _ = some (_, _)›).1
  obtain ⟨hct, hcap⟩ := rtaSignedData_spec _ b3 _ _ _ _ ‹rtaSignedData _ = some _›
  obtain ⟨c4, c6, ca⟩ := decodeAttestation_canon _ hct att h5
  exact ⟨c4, c6, ca, hcap⟩

end Rpki.RtaDer
