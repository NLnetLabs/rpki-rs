/-
  `CrlDer.decodeTbsCrl` reads back what `CrlEnc.encodeTbsCrl` writes, and `Crl::take_from` what `Crl::to_captured`
  writes around it (`takeCrl_encodeCrl`); `forest_encodeList` (a written revocation list is a forest) also serves the
  message CRL of `SigMsgEncLemmas`.
-/
import Rpki.Model.CrlEnc
import Rpki.Proofs.CertEncCert
import Rpki.Proofs.CrlCodec
namespace Rpki.CrlEnc
open Rpki.Der Rpki.CertDer Rpki.CrlDer Rpki.CertEnc Rpki.Consts

theorem crlExtension_extBody (e : CrlExts) (oid v : Bytes) (ho : oidOk oid = true) :
    crlExtension e (extBody oid false v) = crlExtValue e oid v := by
  unfold crlExtension extBody
  simp (disch := decide) only [List.append_assoc, takeOid_tlv _ ho, takeOptBool_octet, takePrim_reads,
    Bool.false_eq_true, if_false, List.nil_append, ne_eq, not_true_eq_false]

theorem crlExtension_aki (e : CrlExts) (k : Bytes) (hk : k.length = 20) (he : e.aki = none) :
    crlExtension e (akiBody k) = some { e with aki := some k } := by
  have hk' : keyIdOk k = true := decide_eq_true hk
  rw [akiBody, crlExtension_extBody _ _ _ (by decide)]
  unfold crlExtValue
  simp (disch := decide) only [he, takeCons_reads, takePrim_reads, hk', if_true, and_self, Option.isSome_none,
    Bool.false_eq_true, if_false]

theorem crlExtension_number (e : CrlExts) (n : Bytes) (hn : X509.VS n) (he : e.number = none) :
    crlExtension e (numberBody n) = some { e with number := some n } := by
  have hne : ¬ oidCrlNumber = oidAuthorityKeyId := by decide
  rw [numberBody, crlExtension_extBody _ _ _ (by decide)]
  unfold crlExtValue
  simp (disch := decide) only [he, hne, takePrim_reads, (X509.der_roundtrip' n hn).1, if_true,
    Option.isSome_none, Bool.false_eq_true, if_false]

structure WF (d : CrlD) : Prop where
  issuer : NameOk d.issuer
  this : X509.validCivil d.thisUpdate = true ∧ d.thisUpdate.y ≤ 9999
  next : X509.validCivil d.nextUpdate = true ∧ d.nextUpdate.y ≤ 9999
  revoked : ∃ es, d.revoked = Crl.encodeList es ∧ ∀ e ∈ es, Crl.EntryOk e
  aki : d.aki.length = 20
  number : X509.VS d.number

theorem takeRevoked_enc (cap rest : Bytes) (h : ∃ es, cap = Crl.encodeList es ∧ ∀ e ∈ es, Crl.EntryOk e) :
    takeRevoked (revokedEnc cap ++ tlv 0xA0 rest) = some (cap, tlv 0xA0 rest) := by
  unfold takeRevoked revokedEnc
  by_cases hc : cap = []
  · subst hc
    simp (disch := decide) only [if_true, List.nil_append, takeOptCons_reads_other]
  · obtain ⟨es, rfl, hok⟩ := h
    simp (disch := decide) only [hc, if_false, takeOptCons_reads, Crl.capture_encode es hok]

theorem decodeTbsCrl_encodeTbsCrl (d : CrlD) (h : WF d) :
    decodeTbsCrl (encodeTbsCrl d) = some (true, { d with tbs := encodeTbsCrl d, signature := [] }) := by
  have hfold : [akiBody d.aki, numberBody d.number].foldlM crlExtension {} =
      some { aki := some d.aki, number := some d.number } := by
    simp only [List.foldlM_cons, List.foldlM_nil, crlExtension_aki _ _ h.aki, crlExtension_number _ _ h.number,
      Option.bind_eq_bind, Option.bind_some, pure]
  unfold decodeTbsCrl
  rw [encodeTbsCrl, (takeCons_reads tagSeq _).2, ← encodeTbsCrl]
  simp (disch := decide) only [List.append_assoc, takePrim_reads, takeSigAlg_enc, h.issuer _, takeTime_timeTlv _ h.this,
    takeTime_timeTlv _ h.next, takeRevoked_enc _ _ h.revoked, takeCons_reads, foldCons_seqs, hfold,
    ne_eq, not_true_eq_false, if_false]

theorem forest_entry (e : Crl.Entry) : Forest (Crl.encodeEntry e) :=
  Crl.encodeEntry_eq e ▸ Forest.cons1 tagSeq ((Forest.prim1 tagInt _).append (forest_timeTag _ _))

theorem forest_encodeList (es : List Crl.Entry) : Forest (Crl.encodeList es) := by
  induction es with
  | nil => exact Forest.nil
  | cons e es ih => exact (forest_entry e).append ih

theorem encodeTbsCrl_forest (d : CrlD) (h : WF d) (hi : Forest d.issuer) : Tbs (encodeTbsCrl d) := by
  obtain ⟨es, hes, _⟩ := h.revoked
  refine ⟨_, rfl, ((((((Forest.prim1 tagInt [1]).append forest_sigAlg).append hi).append (forest_timeTlv _)).append
    (forest_timeTlv _)).append ?_).append (Forest.cons1 0xA0 (Forest.cons1 tagSeq (forest_seqs _ ?_)))⟩
  · unfold revokedEnc
    split
    · exact Forest.nil
    · exact hes ▸ Forest.cons1 tagSeq (forest_encodeList es)
  · intro x hx
    rcases List.mem_cons.1 hx with rfl | hx
    · exact forest_extBody _ _ _
    · cases List.mem_singleton.1 hx; exact forest_extBody _ _ _

theorem takeCrl_encodeCrl (d : CrlD) (h : WF d) (hi : Forest d.issuer) (signature : Bytes) :
    Reads takeCrl (encodeCrl d signature) fun rest =>
      some ({ d with tbs := encodeTbsCrl d, signature := signature }, rest) := .of fun rest => by
  have ht := encodeTbsCrl_forest d h hi
  unfold takeCrl crlInner encodeCrl
  simp (disch := decide) only [takeCons_reads, List.append_assoc, ht.append_ne_nil, ht.skipOne, Lists.take_length_sub,
    takeSigAlg_enc, takeBitString_sig, decodeTbsCrl_encodeTbsCrl d h, if_false, ne_eq, not_true_eq_false,
    Option.map_some]

end Rpki.CrlEnc
