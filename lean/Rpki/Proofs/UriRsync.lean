/-
The representation invariant of `Rsync`: `from_bytes` establishes it, `join` and `parent` keep it.
It is stated on the text, as `from_bytes` checks it; proofs read it through the four parts (`Layout`, `Valid`:
`Inv.layout` and `Inv.valid` out of the invariant, `Layout.inv` back into it) and say what each operation
does to them.
-/
import Rpki.Proofs.UriLemmas
namespace Rpki.Uri

/-- The text is `sch`, authority, `/`, module name, `/`, path, with an 8-byte `sch` and the two
offsets just after the slashes. -/
structure Rsync.Layout (u : Rsync) (sch auth md path : Bytes) : Prop where
  bytes : u.bytes = sch ++ (auth ++ slash :: (md ++ slash :: path))
  sch_length : sch.length = 8
  moduleStart : u.moduleStart = 8 + auth.length + 1
  pathStart : u.pathStart = u.moduleStart + md.length + 1

namespace Rsync.Layout
variable {u : Rsync} {sch auth md path : Bytes} (L : u.Layout sch auth md path)
include L

theorem cut_ms : u.bytes = (sch ++ (auth ++ [slash])) ++ (md ++ slash :: path) ∧
    (sch ++ (auth ++ [slash])).length = u.moduleStart :=
  ⟨by rw [L.bytes, List.append_assoc, List.append_assoc]; rfl,
   by rw [List.length_append, List.length_append, L.sch_length, L.moduleStart, Nat.add_assoc]; rfl⟩

theorem cut_ps : u.bytes = (sch ++ (auth ++ [slash]) ++ (md ++ [slash])) ++ path ∧
    (sch ++ (auth ++ [slash]) ++ (md ++ [slash])).length = u.pathStart :=
  ⟨by rw [L.cut_ms.1, List.append_assoc _ (md ++ [slash]), List.append_assoc md]; rfl,
   by rw [List.length_append, L.cut_ms.2, List.length_append, L.pathStart, Nat.add_assoc]; rfl⟩

theorem drop8 : u.bytes.drop 8 = auth ++ slash :: (md ++ slash :: path) := by
  rw [L.bytes]; exact List.drop_left' L.sch_length

theorem take_ms : u.bytes.take u.moduleStart = sch ++ (auth ++ [slash]) := by
  rw [L.cut_ms.1]; exact List.take_left' L.cut_ms.2

theorem drop_ms : u.bytes.drop u.moduleStart = md ++ slash :: path := by
  rw [L.cut_ms.1]; exact List.drop_left' L.cut_ms.2

theorem module_eq : u.bytes.take u.pathStart = sch ++ (auth ++ [slash]) ++ (md ++ [slash]) := by
  rw [L.cut_ps.1]; exact List.take_left' L.cut_ps.2

theorem path_eq : u.path = path := by
  rw [Rsync.path, L.cut_ps.1]; exact List.drop_left' L.cut_ps.2

theorem authority_eq : u.authority = auth := by
  rw [Rsync.authority, slice, L.moduleStart, Nat.add_sub_cancel, L.bytes, ← L.sch_length,
    List.take_length_add_append, List.drop_left, List.take_left]

theorem moduleName_eq : u.moduleName = md := by
  rw [Rsync.moduleName, slice, L.pathStart, Nat.add_sub_cancel, L.cut_ms.1, ← L.cut_ms.2,
    List.take_length_add_append, List.drop_left, List.take_left]

theorem slice_ms_ps : slice u.bytes u.moduleStart u.pathStart = md ++ [slash] := by
  rw [slice, L.module_eq]; exact List.drop_left' L.cut_ms.2

theorem module_endsWithSlash : endsWithSlash (u.bytes.take u.pathStart) = true := by
  rw [L.module_eq, ← List.append_assoc, endsWithSlash_snoc]; rfl

theorem drop_auth : u.bytes.drop (8 + auth.length) = slash :: (md ++ slash :: path) := by
  rw [L.bytes, ← List.append_assoc]
  exact List.drop_left' (by rw [List.length_append, L.sch_length])

theorem ascii : checkUriAscii u.bytes = checkUriAscii (sch ++ (auth ++ (md ++ path))) := by
  rw [L.bytes]
  simp only [checkUriAscii_append, checkUriAscii_slash_cons]

theorem scheme : startsWithIgnoreCase u.bytes rsyncScheme = true ↔ sch.map toLower = rsyncScheme := by
  rw [startsWithIgnoreCase_iff, L.bytes, show rsyncScheme.length = sch.length from L.sch_length.symm, List.take_left,
    eqIgnoreCase_iff, rsyncScheme_lower, List.length_append]
  exact and_iff_right (Nat.le_add_right _ _)

theorem take (k : Nat) :
    Rsync.Layout { u with bytes := u.bytes.take (u.pathStart + k) } sch auth md (path.take k) := by
  refine ⟨?_, L.sch_length, L.moduleStart, L.pathStart⟩
  show u.bytes.take (u.pathStart + k) = _
  conv => lhs; rw [L.cut_ps.1, ← L.cut_ps.2, List.take_length_add_append]
  simp only [List.append_assoc, List.cons_append, List.nil_append]

end Rsync.Layout

def Rsync.Inv (u : Rsync) : Prop :=
  checkUriAscii u.bytes = true ∧ startsWithIgnoreCase u.bytes rsyncScheme = true ∧
  ∃ auth md path, u.bytes.drop 8 = auth ++ slash :: (md ++ slash :: path) ∧
    goodSeg auth ∧ goodSeg md ∧ slash ∉ auth ∧ slash ∉ md ∧
    u.moduleStart = 9 + auth.length ∧ u.pathStart = 9 + auth.length + md.length + 1 ∧
    checkItems (split path) = .ok ()

theorem Rsync.Inv.length_ge {u : Rsync} (h : u.Inv) : 8 ≤ u.bytes.length :=
  (startsWithIgnoreCase_iff.1 h.2.1).1

theorem Rsync.Inv.bytes_eq {u : Rsync} (h : u.Inv) : u.bytes = u.bytes.take 8 ++ u.bytes.drop 8 :=
  (List.take_append_drop 8 u.bytes).symm

/-- What `from_bytes` checks, said of the four parts. -/
structure Rsync.Valid (s a m p : Bytes) : Prop where
  scheme : s.map toLower = rsyncScheme
  ascii : checkUriAscii (s ++ (a ++ (m ++ p))) = true
  auth_good : goodSeg a
  md_good : goodSeg m
  auth_noslash : slash ∉ a
  md_noslash : slash ∉ m
  path_ok : checkItems (split p) = .ok ()

theorem Rsync.Valid.path {s a m p q : Bytes} (V : Rsync.Valid s a m p) (hq : checkUriAscii q = true)
    (hc : checkItems (split q) = .ok ()) : Rsync.Valid s a m q := by
  refine { V with ascii := ?_, path_ok := hc }
  have := V.ascii
  simp only [checkUriAscii_append, Bool.and_eq_true] at this ⊢
  exact ⟨this.1, this.2.1, this.2.2.1, hq⟩

theorem Rsync.Valid.ascii_path {s a m p : Bytes} (V : Rsync.Valid s a m p) : checkUriAscii p = true := by
  have := V.ascii
  simp only [checkUriAscii_append, Bool.and_eq_true] at this
  exact this.2.2.2

theorem Rsync.Inv.parts {u : Rsync} (h : u.Inv) :
    u.Layout (u.bytes.take 8) u.authority u.moduleName u.path ∧
      Rsync.Valid (u.bytes.take 8) u.authority u.moduleName u.path := by
  have hl := h.length_ge
  obtain ⟨hc, hs, auth, md, path, hd, ga, gm, na, nm, h1, h2, hpp⟩ := h
  have L : u.Layout (u.bytes.take 8) auth md path :=
    ⟨by rw [← hd, List.take_append_drop], List.length_take_of_le hl, by rw [h1]; omega, by rw [h2, h1]⟩
  have e := L.authority_eq
  have e' := L.moduleName_eq
  have e'' := L.path_eq
  subst e e' e''
  exact ⟨L, L.scheme.1 hs, L.ascii ▸ hc, ga, gm, na, nm, hpp⟩

theorem Rsync.Inv.layout {u : Rsync} (h : u.Inv) : u.Layout (u.bytes.take 8) u.authority u.moduleName u.path :=
  h.parts.1

theorem Rsync.Inv.valid {u : Rsync} (h : u.Inv) : Rsync.Valid (u.bytes.take 8) u.authority u.moduleName u.path :=
  h.parts.2

theorem Rsync.Layout.inv {u : Rsync} {s a m p : Bytes} (L : u.Layout s a m p) (V : Rsync.Valid s a m p) :
    u.Inv :=
  ⟨L.ascii.trans V.ascii, L.scheme.2 V.scheme, a, m, p, L.drop8, V.auth_good, V.md_good, V.auth_noslash,
    V.md_noslash, by rw [L.moduleStart]; omega, by rw [L.pathStart, L.moduleStart]; omega, V.path_ok⟩

theorem Rsync.fromBytes_of_inv (u : Rsync) (h : u.Inv) : Rsync.fromBytes u.bytes = .ok u := by
  obtain ⟨hc, hs, auth, md, path, hd, ga, gm, na, nm, h1, h2, hp⟩ := h
  unfold Rsync.fromBytes checkPath
  rw [hc, hs, if_neg (by decide), if_neg (by decide), hd, split_first na, split_first nm,
    checkItems_cons_good _ ga, checkItems_cons_good _ gm, hp]
  simp only
  cases hsp : split path with
  | nil => exact absurd hsp (split_ne_nil path)
  | cons x rest =>
    simp only
    rw [if_neg (fun e => ga.1 (List.eq_nil_of_length_eq_zero e)),
      if_neg (fun e => gm.1 (List.eq_nil_of_length_eq_zero e)), ← h2, ← h1]

/-- `fromBytes_of_inv` with the value written out: for a text that is not of the form `u.bytes` the
unifier would have to find `u` by unfolding. -/
theorem Rsync.fromBytes_mk (b : Bytes) (ms ps : Nat) (h : (Rsync.mk b ms ps).Inv) :
    Rsync.fromBytes b = .ok ⟨b, ms, ps⟩ :=
  Rsync.fromBytes_of_inv ⟨b, ms, ps⟩ h

theorem Rsync.inv_of_fromBytes (b : Bytes) (u : Rsync) (h : Rsync.fromBytes b = .ok u) :
    u.bytes = b ∧ u.Inv := by
  revert h
  fun_cases Rsync.fromBytes b <;> intro h
  all_goals try (cases h; done)
  cases h
  have hsp := ‹split (List.drop 8 b) = _›
  have hcp : checkItems (split (List.drop 8 b)) = .ok () := ‹checkPath (List.drop 8 b) = _›
  rw [hsp] at hcp
  have ⟨ga, hcp2⟩ := checkItems_cons_ok (List.cons_ne_nil _ _) hcp
  have ⟨gm, hcp3⟩ := checkItems_cons_ok (List.cons_ne_nil _ _) hcp2
  obtain ⟨r1, e1, s1⟩ := split_cons_cons _ _ _ hsp (List.cons_ne_nil _ _)
  obtain ⟨r2, e2, s2⟩ := split_cons_cons _ _ _ s1 (List.cons_ne_nil _ _)
  exact ⟨rfl, by simpa using ‹¬(!checkUriAscii b) = true›,
    by simpa using ‹¬(!startsWithIgnoreCase b rsyncScheme) = true›, _, _, r2, by rw [e1, e2], ga, gm,
    split_items_noslash _ _ (hsp ▸ List.mem_cons_self), split_items_noslash _ _ (s1 ▸ List.mem_cons_self),
    rfl, rfl, by rw [s2]; exact hcp3⟩

theorem Rsync.fromBytes_ok_iff (b : Bytes) (u : Rsync) :
    Rsync.fromBytes b = .ok u ↔ u.bytes = b ∧ u.Inv :=
  ⟨Rsync.inv_of_fromBytes b u, fun ⟨e, h⟩ => e ▸ Rsync.fromBytes_of_inv u h⟩

theorem Rsync.fromBytes_of_toOption {b : Bytes} {u : Rsync}
    (h : (Rsync.fromBytes b).toOption = some u) : Rsync.fromBytes b = .ok u := by
  cases e : Rsync.fromBytes b with
  | error x => rw [e] at h; cases h
  | ok v => rw [e] at h; cases h; rfl

theorem Rsync.join_ok_iff {u v : Rsync} {x : Bytes} (hx : x ≠ []) :
    u.join x = .ok v ↔ checkUriAscii x = true ∧ checkPath x = .ok () ∧
      v = { u with bytes := (if endsWithSlash u.bytes then u.bytes else u.bytes ++ [slash]) ++ x } := by
  rw [Rsync.join, if_neg hx]
  cases hc : checkUriAscii x with
  | false => exact ⟨nofun, nofun⟩
  | true =>
    rw [if_neg (by decide)]
    cases hcp : checkPath x with
    | error e => exact ⟨nofun, fun h => nomatch h.2.1⟩
    | ok _ => exact ⟨fun h => ⟨rfl, rfl, (Except.ok.inj h).symm⟩, fun h => congrArg Except.ok h.2.2.symm⟩

theorem Rsync.join_offsets {u v : Rsync} {p : Bytes} (hj : u.join p = .ok v) :
    v.moduleStart = u.moduleStart ∧ v.pathStart = u.pathStart := by
  by_cases hp : p = []
  · subst hp; cases hj; exact ⟨rfl, rfl⟩
  · rw [((Rsync.join_ok_iff hp).1 hj).2.2]; exact ⟨rfl, rfl⟩

theorem Rsync.Layout.join {u v : Rsync} {s a m p x : Bytes} (L : u.Layout s a m p) (hx : x ≠ [])
    (hj : u.join x = .ok v) : v.Layout s a m (dirPath p ++ x) := by
  have ⟨hms, hps⟩ := Rsync.join_offsets hj
  refine ⟨?_, L.sch_length, hms ▸ L.moduleStart, by rw [hps, hms]; exact L.pathStart⟩
  have hb : (if endsWithSlash u.bytes = true then u.bytes else u.bytes ++ [slash]) =
      s ++ (a ++ [slash]) ++ (m ++ [slash]) ++ dirPath p := by
    rw [L.cut_ps.1, dirPath_eq]
    by_cases hp : p = []
    · subst hp
      rw [List.append_nil, ← L.module_eq, L.module_endsWithSlash, if_pos rfl, if_pos (Or.inr rfl),
        List.append_nil]
    · rw [endsWithSlash_append_of_ne hp]
      by_cases he : endsWithSlash p = true
      · rw [if_pos he, if_pos (Or.inl he)]
      · rw [if_neg he, if_neg (fun h => h.elim he hp), List.append_assoc]
  rw [((Rsync.join_ok_iff hx).1 hj).2.2]
  show (if endsWithSlash u.bytes = true then u.bytes else u.bytes ++ [slash]) ++ x = _
  rw [hb]
  simp only [List.append_assoc, List.cons_append, List.nil_append]

theorem Rsync.join_inv (u : Rsync) (p : Bytes) (v : Rsync) (h : u.Inv) (hj : u.join p = .ok v) : v.Inv := by
  by_cases hp : p = []
  · subst hp; cases hj; exact h
  have ⟨hc, hcp, _⟩ := (Rsync.join_ok_iff hp).1 hj
  refine (h.layout.join hp hj).inv (h.valid.path ?_ ((checkItems_dirPath_append h.valid.path_ok p).2 hcp))
  rw [checkUriAscii_append, checkUriAscii_dirPath, h.valid.ascii_path, hc]
  rfl

/-- `parent` keeps scheme, authority and module and cuts the path after a directory prefix (empty, or
ending in a slash), before a rest that is not empty. -/
theorem Rsync.Layout.parent {u v : Rsync} {s a m p : Bytes} (L : u.Layout s a m p)
    (hc : checkItems (split p) = .ok ()) (hp : u.parent = some v) :
    ∃ q r, v.Layout s a m q ∧ p = q ++ r ∧ r ≠ [] ∧ (q = [] ∨ ∃ q', q = q' ++ [slash]) := by
  have hp' : (if stripSlash u.path = [] then none else
      some ({ u with bytes := u.bytes.take (match rfindSlash (stripSlash u.path) with
        | some idx => u.pathStart + idx + 1
        | none => u.pathStart) } : Rsync)) = some v := hp
  rw [L.path_eq] at hp'
  by_cases hsp : stripSlash p = []
  · rw [if_pos hsp] at hp'; cases hp'
  rw [if_neg hsp] at hp'
  cases hr : rfindSlash (stripSlash p) with
  | none =>
    rw [hr] at hp'
    cases hp'
    exact ⟨[], p, L.take 0, rfl, fun e => hsp (e ▸ stripSlash_nil), Or.inl rfl⟩
  | some idx =>
    rw [hr] at hp'
    cases hp'
    obtain ⟨q, r, rfl, rfl, hr'⟩ := rfindSlash_stripSlash hc hr
    refine ⟨_, r, ?_, rfl, hr', Or.inr ⟨q, rfl⟩⟩
    have := L.take (q.length + 1)
    rwa [List.take_left' (by rw [List.length_append]; rfl)] at this

theorem Rsync.parent_inv (u v : Rsync) (h : u.Inv) (hp : u.parent = some v) : v.Inv := by
  have V := h.valid
  obtain ⟨q, r, Lv, e, _, hq⟩ := h.layout.parent V.path_ok hp
  have ha := V.ascii_path
  rw [e, checkUriAscii_append, Bool.and_eq_true] at ha
  refine Lv.inv (V.path ha.1 ?_)
  rcases hq with rfl | ⟨q', rfl⟩
  · rfl
  · exact checkItems_cut e V.path_ok

end Rpki.Uri
