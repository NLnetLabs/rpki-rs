/-
  `Cert::take_from` reads back what `Cert::to_captured` writes; the skip machine (`capture_one`) accepts the
  to-be-signed part because it is a well-formed forest.  The forest lemmas of the shared parts and `Tbs` are what the
  CRL, identity certificate, message CRL and CSR files build their envelopes on; `nameOk_cn` is here because it needs
  the skip machine (`skipOne_prim`).
-/
import Rpki.Proofs.CertEncLemmas
import Rpki.Proofs.SkipAccept
namespace Rpki.CertEnc
open Rpki.Der Rpki.CertDer Rpki.Consts

theorem forest_extBody (oid : Bytes) (crit : Bool) (v : Bytes) : Forest (extBody oid crit v) := by
  refine ((Forest.prim1 tagOid oid).append ?_).append (Forest.prim1 tagOctetString v)
  cases crit
  · exact Forest.nil
  · exact Forest.prim1 tagBool [255]

theorem forest_seqs (items : List Bytes) (h : ∀ x ∈ items, Forest x) : Forest (seqs items) := by
  induction items with
  | nil => exact Forest.nil
  | cons x xs ih =>
    exact Forest.cons tagSeq x _ (by decide) (by decide) (h x (List.mem_cons_self ..))
      (ih (fun y hy => h y (List.mem_cons_of_mem _ hy)))

theorem extItems_forest (d : Decoded) : ∀ x ∈ extItems d, Forest x := by
  intro x hx
  unfold extItems at hx
  simp only [List.mem_append, List.mem_cons, List.mem_nil_iff, or_false, Option.mem_toList, Option.map_eq_some_iff,
    List.mem_ite_nil_right] at hx
  rcases hx with ((((((((((⟨a, _, rfl⟩ | rfl) | ⟨a, _, rfl⟩) | rfl) | ⟨a, _, rfl⟩) | ⟨a, _, rfl⟩) | ⟨a, _, rfl⟩) |
      ⟨_, rfl⟩) | rfl) | ⟨_, rfl⟩) | ⟨_, rfl⟩)
  all_goals exact forest_extBody _ _ _

theorem forest_timeTag (t : X509.TimeTag) (c : Bytes) : Forest (tlv (SigObj.timeOctet t) c) := by
  cases t
  · exact Forest.prim1 tagUtcTime c
  · exact Forest.prim1 tagGenTime c

theorem forest_timeTlv (c : X509.Civil) : Forest (timeTlv c) :=
  timeTlv_eq c ▸ forest_timeTag _ _

theorem forest_sigAlg : Forest sigAlgEnc :=
  Forest.cons1 tagSeq ((Forest.prim1 tagOid _).append (Forest.prim1 tagNull []))

theorem forest_publicKey (alg : KeyAlg) (u : Nat) (bits : Bytes) : Forest (publicKeyEnc alg u bits) := by
  refine Forest.cons1 tagSeq (Forest.append ?_ (Forest.prim1 tagBitString _))
  cases alg
  · exact Forest.cons1 tagSeq ((Forest.prim1 tagOid _).append (Forest.prim1 tagNull []))
  · exact Forest.cons1 tagSeq ((Forest.prim1 tagOid _).append (Forest.prim1 tagOid _))

/-- a to-be-signed value: one SEQUENCE whose content is a forest of complete values, which is what `capture_one` skips
and `SignedData::from_constructed` cuts out before it reads the algorithm and the signature -/
def Tbs (b : Bytes) : Prop := ∃ body, b = tlv tagSeq body ∧ Forest body

theorem encodeTbs_forest (d : Decoded) (hi : Forest d.issuer) (hs : Forest d.subject) : Tbs (encodeTbs d) :=
  ⟨_, rfl, (((((((Forest.cons1 0xA0 (Forest.prim1 tagInt [2])).append (Forest.prim1 tagInt _)).append forest_sigAlg).append
    hi).append (Forest.cons1 tagSeq ((forest_timeTlv _).append (forest_timeTlv _)))).append hs).append
    (forest_publicKey _ _ _)).append (Forest.cons1 0xA3 (Forest.cons1 tagSeq (forest_seqs _ (extItems_forest d))))⟩

theorem Tbs.append_ne_nil {tbs : Bytes} (h : Tbs tbs) (rest : Bytes) : tbs ++ rest ≠ [] := by
  obtain ⟨body, rfl, _⟩ := h
  exact tlv_append_ne_nil _ _ _

theorem Tbs.skipOne {tbs : Bytes} (h : Tbs tbs) : Reads skipOne tbs some := .of fun rest => by
  obtain ⟨body, rfl, hf⟩ := h
  exact skipOne_cons tagSeq body rest (by decide) (by decide) hf

theorem takeCert_encodeCert (d : Decoded) (h : WF d) (hi : Forest d.issuer) (hs : Forest d.subject) (signature : Bytes) :
    Reads takeCert (encodeCert d signature) fun rest => some (readBack d true signature, rest) := .of fun rest => by
  have ht := encodeTbs_forest d hi hs
  unfold takeCert certBody encodeCert
  simp (disch := decide) only [takeCons_reads, List.append_assoc, ht.append_ne_nil, ht.skipOne, Lists.take_length_sub,
    takeSigAlg_enc, takeBitString_sig, decodeTbs_encodeTbs d h, if_false, ne_eq, not_true_eq_false, Option.map_some]

/-- the names the library makes (`Name::from_pub_key`: one RDN with a commonName in a PrintableString) and
every name of that shape are complete values for the reader -/
theorem nameOk_cn (s : Bytes) :
    NameOk (tlv tagSeq (tlv tagSet (tlv tagSeq (tlv tagOid oidCommonName ++ tlv tagPrintable s)))) := by
  intro rest
  have hskip : skipOne (tlv tagPrintable s) = some [] := by
    simpa using skipOne_prim tagPrintable s [] (by decide) (by decide) (by decide)
  have hattr : nameAttr () (tlv tagOid oidCommonName ++ tlv tagPrintable s) = some () := by
    have ho : oidOk oidCommonName = true := by decide
    unfold nameAttr
    simp (disch := decide) only [takePrim_reads, ho, hskip, tlv_ne_nil, Bool.not_true, Bool.false_eq_true, if_false]
  have hrdn : nameRdn () (tlv tagSeq (tlv tagOid oidCommonName ++ tlv tagPrintable s)) = some () := by
    unfold nameRdn
    simp (disch := decide) only [tlv_ne_nil, if_false, foldCons_one, hattr]
  unfold takeName
  simp (disch := decide) only [takeCons_reads, tlv_ne_nil, if_false, foldCons_one, hrdn, Lists.take_length_sub]

end Rpki.CertEnc
