/-
  The parts of the CMS envelope read back: digest and signature algorithm identifiers, `skipU8`, the signer info; the
  signed message, the CSR and the RTA use some of them too.  The whole signed object is `Props/C05.sigobj_roundtrip`.
-/
import Rpki.Model.CmsEnc
import Rpki.Proofs.CertDerLemmas
namespace Rpki.CmsEnc
open Rpki.Der Rpki.CertDer Rpki.CmsDer

theorem takeDigestAlg_enc : Reads takeDigestAlg digestAlgEnc some := .of fun rest => by
  have hn : takeOptNull [] = some (false, []) := rfl
  unfold takeDigestAlg digestAlgEnc
  simp (disch := decide) only [takeCons_reads, takePrim_reads, hn, ne_eq, not_true_eq_false, if_false, if_true]

theorem takeCmsSigAlg_enc : Reads takeCmsSigAlg cmsSigAlgEnc fun rest => some (true, rest) := .of fun rest => by
  unfold takeCmsSigAlg cmsSigAlgEnc
  simp (disch := decide) only [takeCons_reads, takeOid_tlv, takeOptNull_null, ne_eq, not_true_eq_false, false_and,
    if_false, if_true]

theorem skipU8_enc (n : Nat) : Reads (skipU8 n) (tlv tagInt [n]) some := .of fun rest => by
  unfold skipU8
  simp (disch := decide) only [takePrim_reads, if_true]

/-- `signerInfo` on the content of the SEQUENCE `signerInfoEnc` writes, its appends nested to the right as
`List.append_assoc` leaves them -/
theorem signerInfo_enc (ct sid attrs md sig : Bytes) (st : X509.Civil) (hsid : sid.length = 20)
    (hp : SigObj.parseAttrs true attrs = some (ct, md, st)) :
    signerInfo ct (tlv tagInt [3] ++ (tlv 0x80 sid ++ (digestAlgEnc ++ (tlv 0xA0 attrs ++ (cmsSigAlgEnc ++
      tlv tagOctetString sig))))) = some (sid, attrs, md, st, sig) := by
  have hk : keyIdOk sid = true := decide_eq_true hsid
  unfold signerInfo
  simp (disch := decide) only [skipU8_enc, takePrim_reads, takeCons_reads, hk, takeDigestAlg_enc, hp,
    takeCmsSigAlg_enc, Bool.not_true, Bool.false_eq_true, if_false, ne_eq, not_true_eq_false]

end Rpki.CmsEnc
