/-
  What two decoders accept.  `Model/CrlDer.lean` (first part): the captured revocation list of every decoded CRL passed
  the counting pass of the entry reader.  `Model/SigMsgDer.lean` (the larger part): the same for the CRL of a signed
  protocol message, and its signed attributes parse to the protocol content type and the digest that was returned.
-/
import Rpki.Proofs.DerLemmas
-- no declaration of `CrlCodec` is used here: the import keeps Mathlib in the import closure of this module and of its
-- importers, whose statements were elaborated that way (dropping it would change how `2 ^ k` elaborates in them)
import Rpki.Proofs.CrlCodec
import Rpki.Gen.BerEq
namespace Rpki.CrlDer
open Rpki.Der

theorem takeRevoked_capture (b cap rest : Bytes) (h : takeRevoked b = some (cap, rest)) :
    ∃ n, Crl.capture cap = some n := by
  revert h
  fun_cases takeRevoked b <;> intro h <;> try (cases h; done)
  · cases h; exact ⟨0, rfl⟩
  · cases h; exact ⟨_, ‹Crl.capture _ = some _›⟩

theorem decodeTbsCrl_revoked (raw : Bytes) (p : Bool) (d : CrlD) (h : decodeTbsCrl raw = some (p, d)) :
    ∃ n, Crl.capture d.revoked = some n := by
  revert h
  fun_cases decodeTbsCrl raw <;> intro h <;> try (cases h; done)
  cases h
  exact takeRevoked_capture _ _ _ ‹takeRevoked _ = some _›

theorem crlInner_revoked (c : Bytes) (d : CrlD) (h : crlInner c = some d) :
    ∃ n, Crl.capture d.revoked = some n := by
  revert h
  fun_cases crlInner c <;> intro h <;> try (cases h; done)
  cases h
  -- `(… :)`: elaborated before the goal, whose `{ d with signature := _ }` would otherwise be taken for the lemma's `d`
  exact (decodeTbsCrl_revoked _ _ _ ‹decodeTbsCrl _ = some _› :)

theorem takeCrl_revoked (b : Bytes) (d : CrlD) (rest : Bytes) (h : takeCrl b = some (d, rest)) :
    ∃ n, Crl.capture d.revoked = some n := by
  revert h
  fun_cases takeCrl b <;> intro h <;> try cases h
  obtain ⟨d', hi, e⟩ := Option.map_eq_some_iff.1 h
  injection e with e _; subst e
  exact crlInner_revoked _ d' hi

/-- the captured list of every decoded CRL passed the counting pass of `RevokedCertificates::take_from` -/
theorem decodeCrl_revoked (b : Bytes) (d : CrlD) (h : decodeCrl b = some d) :
    ∃ n, Crl.capture d.revoked = some n := by
  obtain ⟨⟨d', rest⟩, ht, rfl⟩ := Option.map_eq_some_iff.1 h
  exact takeCrl_revoked b d' rest ht

end Rpki.CrlDer

namespace Rpki.SigMsgDer
open Rpki.Der

theorem takeMsgRevoked_captureM (ber : Bool) (b cap rest : Bytes) (h : takeMsgRevokedM ber b = some (cap, rest)) :
    ∃ n, capturePass (takeOptMsgEntryM ber) (fun _ => true) cap.length cap 0 = some n := by
  revert h
  fun_cases takeMsgRevokedM ber b <;> intro h <;> try (cases h; done)
  · cases h; exact ⟨0, rfl⟩
  · cases h; exact ⟨_, ‹capturePass _ _ _ _ _ = some _›⟩

theorem decodeTbsMsgCrl_revokedM (ber : Bool) (raw : Bytes) (d : MsgCrlD) (h : decodeTbsMsgCrlM ber raw = some d) :
    ∃ n, capturePass (takeOptMsgEntryM ber) (fun _ => true) d.revoked.length d.revoked 0 = some n := by
  revert h
  fun_cases decodeTbsMsgCrlM ber raw <;> intro h <;> try (cases h; done)
  cases h
  exact takeMsgRevoked_captureM ber _ _ _ ‹takeMsgRevokedM _ _ = some _›

theorem msgCrlBody_revokedM (ber : Bool) (c : Bytes) (d : MsgCrlD) (h : msgCrlBodyM ber c = some d) :
    ∃ n, capturePass (takeOptMsgEntryM ber) (fun _ => true) d.revoked.length d.revoked 0 = some n := by
  revert h
  fun_cases msgCrlBodyM ber c <;> intro h <;> try cases h
  obtain ⟨d', hd, rfl⟩ := Option.map_eq_some_iff.1 h
  exact decodeTbsMsgCrl_revokedM ber _ d' hd

theorem msgCrlPart_revokedM (ber : Bool) (r3 : Bytes) (d : MsgCrlD) (r4 : Bytes) (h : msgCrlPartM ber r3 = some (d, r4)) :
    ∃ n, capturePass (takeOptMsgEntryM ber) (fun _ => true) d.revoked.length d.revoked 0 = some n := by
  revert h
  fun_cases msgCrlPartM ber r3 <;> intro h <;> try (cases h; done)
  cases h
  exact msgCrlBody_revokedM ber _ _ ‹msgCrlBodyM _ _ = some _›

theorem msgSignerInfo_specM (ber : Bool) (ct si sid attrs md sig : Bytes)
    (h : msgSignerInfoM ber ct si = some (sid, attrs, md, sig)) :
    ∃ st, SigObj.parseAttrsM ber false attrs = some (ct, md, st) := by
  revert h
  fun_cases msgSignerInfoM ber ct si <;> intro h <;> try (cases h; done)
  cases h
  cases Decidable.not_not.1 ‹¬_ ≠ ct›
  exact ⟨_, ‹SigObj.parseAttrsM _ _ _ = some _›⟩

theorem msgSignerPart_specM (ber : Bool) (ct r4 sid attrs md sig : Bytes)
    (h : msgSignerPartM ber ct r4 = some (sid, attrs, md, sig)) :
    ∃ st, SigObj.parseAttrsM ber false attrs = some (ct, md, st) := by
  revert h
  fun_cases msgSignerPartM ber ct r4 <;> intro h <;> try cases h
  exact msgSignerInfo_specM ber _ _ _ _ _ _ h

theorem msgEncap_ctM (ber : Bool) (r1 ct content r2 : Bytes) (h : msgEncapM ber r1 = some (ct, content, r2)) :
    ct = Consts.oidProtocolContentType := by
  revert h
  fun_cases msgEncapM ber r1 <;> intro h <;> try (cases h; done)
  cases h
  exact Decidable.not_not.1 ‹¬_ ≠ Consts.oidProtocolContentType›

/-- what the two checks on a decoded message rely on: its CRL's list passed the counting pass, its signed attributes
parse to the protocol content type and the returned digest -/
theorem msgSignedData_factsM (ber : Bool) (sd : Bytes) (m : SigMsgD) (h : msgSignedDataM ber sd = some m) :
    (∃ n, capturePass (takeOptMsgEntryM ber) (fun _ => true) m.crl.revoked.length m.crl.revoked 0 = some n) ∧
    ∃ st, SigObj.parseAttrsM ber false m.attrs = some (Consts.oidProtocolContentType, m.messageDigest, st) := by
  revert h
  fun_cases msgSignedDataM ber sd <;> intro h <;> try (cases h; done)
  cases h
  refine ⟨msgCrlPart_revokedM ber _ _ _ ‹msgCrlPartM _ _ = some _›, ?_⟩
  rw [← msgEncap_ctM ber _ _ _ _ ‹msgEncapM _ _ = some _›]
  exact msgSignerPart_specM ber _ _ _ _ _ _ ‹msgSignerPartM _ _ _ = some _›

theorem decodeSigMsg_factsM (ber : Bool) (b : Bytes) (m : SigMsgD) (h : decodeSigMsgM ber b = some m) :
    (∃ n, capturePass (takeOptMsgEntryM ber) (fun _ => true) m.crl.revoked.length m.crl.revoked 0 = some n) ∧
    ∃ st, SigObj.parseAttrsM ber false m.attrs = some (Consts.oidProtocolContentType, m.messageDigest, st) := by
  revert h
  fun_cases decodeSigMsgM ber b <;> intro h <;> try cases h
  exact msgSignedData_factsM ber _ m h

/-- the later walk over the captured list (`verify_not_revoked`), with the same entry reader, reaches its end -/
theorem decodeSigMsg_serialsM (ber : Bool) (b : Bytes) (m : SigMsgD) (h : decodeSigMsgM ber b = some m) :
    ∃ l, msgRevokedSerialsM ber m.crl.revoked = some l := by
  obtain ⟨n, hn⟩ := (decodeSigMsg_factsM ber b m h).1
  obtain ⟨items, hi, _⟩ := capture_iterate_parity _ _ _ _ _ _ hn
  exact ⟨items.map (·.serial), by unfold msgRevokedSerialsM; rw [hi]; rfl⟩

theorem decodeSigMsg_serials (b : Bytes) (m : SigMsgD) (h : decodeSigMsg b = some m) :
    ∃ l, msgRevokedSerials m.crl.revoked = some l := by
  rw [← decodeSigMsgM_false] at h
  have := decodeSigMsg_serialsM false b m h
  rwa [msgRevokedSerialsM_false] at this

theorem decodeSigMsg_specM (ber : Bool) (b : Bytes) (m : SigMsgD) (h : (decodeSigMsgM ber) b = some m) :
    ∃ st, (SigObj.parseAttrsM ber) false m.attrs = some (Consts.oidProtocolContentType, m.messageDigest, st) :=
  (decodeSigMsg_factsM ber b m h).2

theorem decodeSigMsg_spec (b : Bytes) (m : SigMsgD) (h : decodeSigMsg b = some m) :
    ∃ st, SigObj.parseAttrs false m.attrs = some (Consts.oidProtocolContentType, m.messageDigest, st) := by
  rw [← decodeSigMsgM_false] at h
  have := decodeSigMsg_specM false b m h
  rwa [SigObj.parseAttrsM_false] at this

theorem decodeSigMsg_attrsM (ber : Bool) (b : Bytes) (m : SigMsgD) (h : (decodeSigMsgM ber) b = some m) :
    ∃ c d st, (SigObj.parseAttrsM ber) false m.attrs = some (c, d, st) :=
  let ⟨st, hp⟩ := decodeSigMsg_specM ber b m h
  ⟨_, _, st, hp⟩

end Rpki.SigMsgDer
