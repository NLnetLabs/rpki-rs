/-
  CRL revocation list codec: the counting pass, the iterator and the lookup read back what
  `RevokedCertificates::from_iter` / `CrlEntry::encode` write; on arbitrary captured octets the lookup and the
  iterator agree.
-/
import Rpki.Model.Crl
import Rpki.Proofs.ManifestCodec  -- the time reader; also the path to X509Serial, which fixes how `2 ^ k` elaborates here
namespace Rpki.Crl
open Rpki.Der

def EntryOk (e : Entry) : Prop := X509.VS e.serial ∧ X509.validCivil e.date = true ∧ e.date.y ≤ 9999

theorem encodeEntry_eq (e : Entry) :
    encodeEntry e = tlv tagSeq (tlv tagInt (X509.encodeContent e.serial) ++
      tlv (SigObj.timeOctet (X509.encodeVaried e.date).1) (X509.encodeVaried e.date).2) := rfl

theorem takeOptEntry_encode (e : Entry) (he : EntryOk e) : Reads takeOptEntry (encodeEntry e) (.ok e) :=
  .of fun rest => by
  unfold takeOptEntry
  simp (disch := decide) only [encodeEntry_eq, takeOptCons_reads, takePrim_reads,
    (X509.der_roundtrip' e.serial he.1).1, Manifest.takeTime_encodeVaried e.date he.2.1 he.2.2, if_true]

theorem takeOptEntry_nil : takeOptEntry [] = .absent := rfl

theorem encodeList_nil : encodeList [] = [] := rfl

theorem encodeList_cons (e : Entry) (es : List Entry) :
    encodeList (e :: es) = encodeEntry e ++ encodeList es := rfl

theorem length_le_encodeList (es : List Entry) : es.length ≤ (encodeList es).length :=
  length_le_flatten_map _ (fun _ => List.cons_ne_nil _ _) es

theorem entries_encode (es : List Entry) (h : ∀ e ∈ es, EntryOk e) :
    entries (encodeList es) = some es :=
  iteratePass_flatten takeOptEntry encodeEntry takeOptEntry_nil es _ (length_le_encodeList es)
    (fun e he => (takeOptEntry_encode e (h e he)).1)

theorem capture_encode (es : List Entry) (h : ∀ e ∈ es, EntryOk e) :
    capture (encodeList es) = some es.length := by
  rw [← Nat.zero_add es.length]
  exact capturePass_flatten takeOptEntry _ encodeEntry takeOptEntry_nil es _ 0 (length_le_encodeList es)
    (fun e he => ⟨e, (takeOptEntry_encode e (h e he)).1, rfl⟩)


theorem containsLoop_of_iteratePass (s : Bytes) (fuel : Nat) (b : Bytes) (es : List Entry)
    (h : iteratePass takeOptEntry fuel b = some es) :
    containsLoop fuel b s = some (decide (∃ e ∈ es, e.serial = s)) := by
  have hnil : ∀ s, some false = some (decide (∃ e ∈ ([] : List Entry), e.serial = s)) :=
    fun s => congrArg some (decide_eq_false fun ⟨_, h, _⟩ => nomatch h).symm
  fun_induction containsLoop fuel b s generalizing es
  · cases h; exact hnil _
  · rw [iteratePass, ‹takeOptEntry _ = _›] at h; cases h; exact hnil _
  · rw [iteratePass, ‹takeOptEntry _ = _›] at h; cases h
  · rw [iteratePass, ‹takeOptEntry _ = _›] at h
    obtain ⟨es', _, rfl⟩ := Option.map_eq_some_iff.1 h
    exact congrArg some (decide_eq_true ⟨_, List.mem_cons_self .., rfl⟩).symm
  · rename_i hs ih
    rw [iteratePass, ‹takeOptEntry _ = _›] at h
    obtain ⟨es', hr, rfl⟩ := Option.map_eq_some_iff.1 h
    rw [ih es' hr]
    exact congrArg some (decide_eq_decide.2 (by simp only [List.mem_cons, exists_eq_or_imp, hs, false_or]))

theorem contains_eq_listed (b : Bytes) (es : List Entry) (h : entries b = some es) (s : Bytes) :
    contains b s = some (decide (∃ e ∈ es, e.serial = s)) :=
  containsLoop_of_iteratePass s b.length b es h

/-- the list is the same whether read entry by entry or looked up: a serial is reported revoked
iff it is listed (arbitrary captured octets that iterate cleanly; no encoder involved) -/
theorem contains_iff_listed (b : Bytes) (es : List Entry) (h : entries b = some es) (s : Bytes) :
    contains b s = some true ↔ ∃ e ∈ es, e.serial = s := by
  rw [contains_eq_listed b es h s, Option.some.injEq, decide_eq_true_eq]

theorem contains_encode (es : List Entry) (h : ∀ e ∈ es, EntryOk e) (s : Bytes) :
    contains (encodeList es) s = some (decide (∃ e ∈ es, e.serial = s)) :=
  contains_eq_listed _ es (entries_encode es h) s

example : ∃ es : List Entry, (∀ e ∈ es, EntryOk e) ∧ (encodeList es).length < 2 ^ 32 ∧ es.length = 2 := by
  refine ⟨[⟨List.replicate 19 0 ++ [128], ⟨2024, 2, 29, 23, 59, 59⟩⟩,
    ⟨List.replicate 19 0 ++ [7], ⟨2050, 1, 1, 0, 0, 0⟩⟩], ?_, by decide, rfl⟩
  intro e he
  simp only [List.mem_cons, List.mem_nil_iff, or_false] at he
  rcases he with h | h <;> subst h <;> refine ⟨⟨by decide, ?_, by decide⟩, by decide, by decide⟩ <;>
    exact fun x hx => (List.mem_append.1 hx).elim (fun h => List.eq_of_mem_replicate h ▸ by decide)
      (fun h => List.mem_singleton.1 h ▸ by decide)

end Rpki.Crl
