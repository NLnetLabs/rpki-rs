/-
  Every value the DER readers read is read by the BER readers as the same value: the leaf readers and the generic loops.
  `Gen/BerMonoGen.lean` has the same for the readers composed of them.
-/
import Rpki.Proofs.SkipLemmas
import Rpki.Gen.BerModel
import Rpki.Proofs.BerSimpAttr
namespace Rpki
open Rpki.Der Rpki.CertDer

theorem Der.Take.ok_ne_bad {α : Type} (v : α) (r : Bytes) : (Take.ok v r = Take.bad) = False := eq_false nofun

theorem Der.Take.absent_ne_bad {α : Type} : ((Take.absent : Take α) = Take.bad) = False := eq_false nofun

attribute [ber_path] Option.isSome_some ne_eq not_false_eq_true if_true if_false and_self Bool.not_false Bool.false_eq_true
  Take.ok_ne_bad Take.absent_ne_bad

/-! A lemma `foo_mono` is an implication (what `fooM ber` or `foo` reads, `fooM true` reads), a lemma `foo_monoEq`
the equation `fooM true = foo` (or `= fooM ber`) wherever the reader on the right accepts. -/

theorem eq_of_mono {α : Type} {o o' : Option α} (h : ∀ x, o = some x → o' = some x) (hs : o.isSome) : o' = o := by
  cases o with
  | none => cases hs
  | some x => exact h x rfl

theorem readLenM_mono (ber : Bool) (b : Bytes) (x : Nat × Bytes) : readLenM ber b = some x → readLenM true b = some x :=
  fun h => (readLenM_spec ber b x.1 x.2 h).2

theorem readLenXM_mono (ber : Bool) (b : Bytes) (x : Len × Bytes) : readLenXM ber b = some x → readLenXM true b = some x := by
  unfold readLenXM
  split
  · exact id
  · simp only [Option.map_eq_some_iff]
    exact fun ⟨p, hp, e⟩ => ⟨p, readLenM_mono ber b p hp, e⟩

/-- The mode enters a turn of the skip machine through the length octets only. -/
theorem skipStepM_monoEq (ber : Bool) (cur : Bytes) (st : List Frame) (h : skipStepM ber cur st ≠ .fail) :
    skipStepM true cur st = skipStepM ber cur st := by
  revert h
  unfold skipStepM
  cases takeTagAny cur with
  | none => exact fun _ => rfl
  | some p =>
    dsimp only
    cases hl : readLenXM ber p.2 with
    | none => exact fun h => absurd rfl h
    | some q => rw [readLenXM_mono ber _ _ hl]; exact fun _ => rfl

theorem skipLoopM_mono (ber : Bool) : ∀ (fuel : Nat) (cur : Bytes) (st : List Frame) (rest : Bytes),
    skipLoopM ber fuel cur st = some rest → skipLoopM true fuel cur st = some rest := by
  intro fuel
  induction fuel with
  | zero => nofun
  | succ n ih =>
    intro cur st rest h
    rw [skipLoopM_succ] at h ⊢
    cases hs : skipStepM ber cur st with
    | fail => rw [hs] at h; cases h
    | done r => rw [skipStepM_monoEq ber cur st (hs ▸ nofun), hs]; rw [hs] at h; exact h
    | more c s => rw [skipStepM_monoEq ber cur st (hs ▸ nofun), hs]; rw [hs] at h; exact ih c s rest h

theorem skipOneM_mono (ber : Bool) (b rest : Bytes) : skipOneM ber b = some rest → skipOneM true b = some rest :=
  skipLoopM_mono ber _ b [] rest

theorem readTlvIM_mono (b : Bytes) (t : Nat) (c rest : Bytes) (h : readTlv b = some (t, c, rest)) :
    readTlvIM true b = some (t, c, rest, false) := by
  unfold readTlv at h
  unfold readTlvIM
  cases b with
  | nil => cases h
  | cons t0 r =>
    dsimp only at h ⊢
    split at h
    · cases h
    · rename_i ht
      rw [if_neg ht]
      cases hl : readLen r with
      | none => rw [hl] at h; cases h
      | some p =>
        obtain ⟨l, r'⟩ := p
        have hx : readLenXM true r = some (.definite l, r') := by
          unfold readLenXM
          split
          · rw [readLen_indef] at hl; cases hl
          · rw [readLenM_mono false r _ (readLenM_false ▸ hl)]; rfl
        rw [hx]
        rw [hl] at h
        dsimp only at h ⊢
        split at h
        · cases h
        · rename_i hlen
          rw [if_neg hlen]
          cases h
          rfl

theorem readTlv_monoEq (b : Bytes) (h : (readTlv b).isSome) : readTlvM true b = readTlv b := by
  cases hr : readTlv b with
  | none => rw [hr] at h; cases h
  | some x =>
    obtain ⟨t, c, rest⟩ := x
    unfold readTlvM
    rw [readTlvIM_mono b t c rest hr]
    rfl

theorem takeOptConsIM_monoEq (tag : Nat) (b : Bytes) (h : takeOptCons tag b ≠ .bad) :
    takeOptConsIM true tag b =
      (match takeOptCons tag b with | .absent => .absent | .bad => .bad | .ok c rest => .ok (c, false) rest) := by
  revert h
  unfold takeOptCons takeOptConsIM
  cases b with
  | nil => exact fun _ => rfl
  | cons t r =>
    dsimp only
    by_cases h1 : t % 32 = 31
    · rw [if_pos h1]; exact fun h => absurd rfl h
    rw [if_neg h1, if_neg h1]
    by_cases h2 : tagNoCons t ≠ tagNoCons tag
    · rw [if_pos h2, if_pos h2]; exact fun _ => rfl
    rw [if_neg h2, if_neg h2]
    by_cases h3 : (!isCons t) = true
    · rw [if_pos h3]; exact fun h => absurd rfl h
    rw [if_neg h3, if_neg h3]
    cases hr : readTlv (t :: r) with
    | none => exact fun h => absurd rfl h
    | some x =>
      obtain ⟨t', c, rest⟩ := x
      rw [readTlvIM_mono _ t' c rest hr]
      exact fun _ => rfl

theorem takeOptCons_monoEq (tag : Nat) (b : Bytes) (h : takeOptCons tag b ≠ .bad) :
    takeOptConsM true tag b = takeOptCons tag b := by
  unfold takeOptConsM
  rw [takeOptConsIM_monoEq tag b h]
  cases takeOptCons tag b <;> rfl

theorem takeCons_monoEq (tag : Nat) (b : Bytes) (h : (takeCons tag b).isSome) : takeConsM true tag b = takeCons tag b := by
  unfold takeCons at h ⊢
  unfold takeConsM
  rw [takeOptCons_monoEq tag b (fun hb => by rw [hb] at h; cases h)]
  rfl

theorem takeOptPrim_monoEq (tag : Nat) (b : Bytes) (h : takeOptPrim tag b ≠ .bad) :
    takeOptPrimM true tag b = takeOptPrim tag b := by
  revert h
  unfold takeOptPrim takeOptPrimM
  cases b with
  | nil => exact fun _ => rfl
  | cons t r =>
    dsimp only
    by_cases h1 : t % 32 = 31
    · rw [if_pos h1]; exact fun h => absurd rfl h
    rw [if_neg h1, if_neg h1]
    by_cases h2 : tagNoCons t ≠ tag
    · rw [if_pos h2, if_pos h2]; exact fun _ => rfl
    rw [if_neg h2, if_neg h2]
    by_cases h3 : isCons t = true
    · rw [if_pos h3]; exact fun h => absurd rfl h
    rw [if_neg h3, if_neg h3]
    cases hr : readTlv (t :: r) with
    | none => exact fun h => absurd rfl h
    | some x => rw [readTlv_monoEq _ (by rw [hr]; rfl), hr]; exact fun _ => rfl

theorem takePrim_monoEq (tag : Nat) (b : Bytes) (h : (takePrim tag b).isSome) : takePrimM true tag b = takePrim tag b := by
  unfold takePrim at h ⊢
  unfold takePrimM
  rw [takeOptPrim_monoEq tag b (fun hb => by rw [hb] at h; cases h)]
  rfl

theorem takeOptBool_monoEq (b : Bytes) (h : takeOptBool b ≠ .bad) : takeOptBoolM true b = takeOptBool b := by
  unfold takeOptBool at h ⊢
  unfold takeOptBoolM
  rw [takeOptPrim_monoEq tagBool b (fun hb => by rw [hb] at h; exact h rfl)]
  revert h
  cases takeOptPrim tagBool b with
  | absent => exact fun _ => rfl
  | bad => exact fun _ => rfl
  | ok c r =>
    dsimp only
    intro h
    by_cases h0 : c = [0]
    · subst h0; rfl
    by_cases h1 : c = [255]
    · subst h1; rfl
    rw [if_neg h0, if_neg h1] at h
    exact absurd rfl h

theorem bitStringTake_mono (c : Bytes) (x : Nat × Bytes) : Manifest.bitStringTake c = some x →
    Manifest.bitStringTakeM true c = some x := by
  unfold Manifest.bitStringTake Manifest.bitStringTakeM
  cases c with
  | nil => exact id
  | cons u bits =>
    dsimp only
    by_cases h1 : u > 7
    · rw [if_pos h1]; nofun
    rw [if_neg h1, if_neg h1]
    by_cases h2 : bits = [] ∧ u > 0
    · rw [if_pos h2]; nofun
    rw [if_neg h2, if_neg h2]
    -- BER mode skips the test of the unused bits and answers `(u, bits)`; that is the only answer the DER test gives
    intro h
    rw [if_neg (fun hh => Bool.noConfusion hh.2)]
    split at h
    · split at h
      · split at h
        · cases h
        · exact h
      · exact h
    · exact h

theorem bitStringTake_monoEq (c : Bytes) (h : (Manifest.bitStringTake c).isSome) :
    Manifest.bitStringTakeM true c = Manifest.bitStringTake c :=
  eq_of_mono (bitStringTake_mono c) h

theorem skipOne_monoEq (b : Bytes) (h : (skipOne b).isSome) : skipOneM true b = skipOne b :=
  eq_of_mono (fun x hx => skipOneM_mono false b x (skipOneM_false ▸ hx)) h

theorem skipAll_mono (fuel : Nat) (b : Bytes) : skipAll fuel b = true → skipAllM true fuel b = true := by
  fun_induction skipAll fuel b
  all_goals intro h
  all_goals try (cases h; done)
  all_goals (rw [skipAllM]; simp only [*, skipOne_monoEq, ber_path])

theorem foldCons_monoEq {σ : Type} (tag : Nat) (f fM : σ → Bytes → Option σ)
    (hf : ∀ s c, (f s c).isSome → fM s c = f s c) :
    ∀ (fuel : Nat) (b : Bytes) (s : σ), (foldCons tag f fuel b s).isSome →
      foldConsM true tag fM fuel b s = foldCons tag f fuel b s := by
  intro fuel b s
  fun_induction foldCons tag f fuel b s
  all_goals intro h
  all_goals try (cases h; done)
  all_goals (rw [foldConsM]; simp only [*, takeOptCons_monoEq, ber_path])

theorem foldPrim_monoEq {σ : Type} (tag : Nat) (f : σ → Bytes → Option σ) :
    ∀ (fuel : Nat) (b : Bytes) (s : σ), (foldPrim tag f fuel b s).isSome →
      foldPrimM true tag f fuel b s = foldPrim tag f fuel b s := by
  intro fuel b s
  fun_induction foldPrim tag f fuel b s
  all_goals intro h
  all_goals try (cases h; done)
  all_goals (rw [foldPrimM]; simp only [*, takeOptPrim_monoEq, ber_path])

theorem capturePass_monoEq {α : Type} (take takeM : Bytes → Take α) (check : α → Bool)
    (ht : ∀ b, take b ≠ .bad → takeM b = take b) :
    ∀ (fuel : Nat) (b : Bytes) (n : Nat), (capturePass take check fuel b n).isSome →
      capturePass takeM check fuel b n = capturePass take check fuel b n := by
  intro fuel b n
  fun_induction capturePass take check fuel b n
  all_goals intro h
  all_goals try (cases h; done)
  all_goals (rw [capturePass]; simp only [*, ber_path])

theorem iteratePass_monoEq {α : Type} (take takeM : Bytes → Take α)
    (ht : ∀ b, take b ≠ .bad → takeM b = take b) :
    ∀ (fuel : Nat) (b : Bytes), (iteratePass take fuel b).isSome → iteratePass takeM fuel b = iteratePass take fuel b := by
  intro fuel b
  fun_induction iteratePass take fuel b
  all_goals intro h
  all_goals try (cases h; done)
  all_goals try simp only [Option.isSome_map] at h
  all_goals simp only [iteratePass, *, ber_path]

end Rpki
