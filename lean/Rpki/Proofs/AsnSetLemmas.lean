/-
AS sets are strictly sorted lists: `sort` followed by `dedup` makes one with the same members, and union,
intersection, difference and symmetric difference keep strict order and have the members their names say.
-/
import Rpki.Model.AsnSet
import Rpki.Proofs.ListLemmas
namespace Rpki.AsnSet

theorem insertSorted_eq (x : Nat) : ∀ l, insertSorted x l = Lists.insertBy (· ≤ ·) x l
  | [] => rfl
  | y :: ys => by unfold insertSorted Lists.insertBy; rw [insertSorted_eq x ys]

theorem mem_insertSorted (x y : Nat) (l : List Nat) : y ∈ insertSorted x l ↔ y = x ∨ y ∈ l :=
  insertSorted_eq x l ▸ Lists.mem_insertBy _ x l y

theorem mem_sort (y : Nat) (l : List Nat) : y ∈ sort l ↔ y ∈ l := by
  induction l with
  | nil => simp [sort]
  | cons z zs ih => simp [sort, mem_insertSorted, ih]

def Sorted (l : List Nat) : Prop := l.Pairwise (· ≤ ·)

theorem ss_nil : StrictSorted [] := List.Pairwise.nil

theorem ss_cons {a : Nat} {l : List Nat} : StrictSorted (a :: l) ↔ (∀ x ∈ l, a < x) ∧ StrictSorted l := by
  unfold StrictSorted; simp [List.pairwise_cons]

theorem sorted_insertSorted (x : Nat) (l : List Nat) (h : Sorted l) : Sorted (insertSorted x l) :=
  insertSorted_eq x l ▸ Lists.pairwise_insertBy _ _ x (fun _ => id) (fun _ => Nat.le_of_not_le) Nat.le_trans l h

theorem sorted_sort (l : List Nat) : Sorted (sort l) := by
  induction l with
  | nil => simp [sort, Sorted]
  | cons z zs ih => exact sorted_insertSorted z _ ih

theorem mem_dedup (y : Nat) (l : List Nat) : y ∈ dedup l ↔ y ∈ l := by
  fun_induction dedup l <;> grind

theorem dedup_head (x : Nat) (l : List Nat) : ∀ y ∈ dedup (x :: l), y ∈ x :: l := by
  intro y hy; exact (mem_dedup y _).1 hy

theorem strictSorted_dedup (l : List Nat) (h : Sorted l) : StrictSorted (dedup l) := by
  fun_induction dedup l with
  | case1 => exact ss_nil
  | case2 x => exact ss_cons.2 ⟨nofun, ss_nil⟩
  | case3 x rest ih => exact ih (List.Pairwise.of_cons h)
  | case4 x y rest hxy ih =>
    have ih' := ih (List.Pairwise.of_cons h)
    unfold Sorted at h
    rw [List.pairwise_cons] at h
    refine ss_cons.2 ⟨fun a ha => ?_, ih'⟩
    have ha := (mem_dedup a _).1 ha
    have := h.1 y (List.mem_cons_self ..)
    have := List.pairwise_cons.1 h.2
    grind

/-- what a merge has to yield on `L`, `R`; `F` is the set operation on membership (`Or`, `And`, …) -/
def Spec (F : Prop → Prop → Prop) (L R res : List Nat) : Prop :=
  StrictSorted res ∧ ∀ x, x ∈ res ↔ F (x ∈ L) (x ∈ R)

theorem lt_all {a b : Nat} {r : List Nat} (hab : a < b) (hr : StrictSorted (b :: r)) : ∀ x ∈ b :: r, a < x :=
  fun x hx => (List.mem_cons.1 hx).elim (fun e => e ▸ hab) fun h => Nat.lt_trans hab ((ss_cons.1 hr).1 x h)

section
variable (F : Prop → Prop → Prop) (hF : ¬ F False False) {a b m : Nat} {L R l r res : List Nat}
include hF

/-- `m`, the smaller head, lies below everything left in both inputs and is in the left one iff `p`, in the right one
iff `q`: put in front of a result for what is left, or left out, as `F p q` says, it gives a result for the inputs with `m`. -/
theorem peel (p q : Prop) (hL : ∀ x, x ∈ L ↔ (x = m ∧ p) ∨ x ∈ l) (hR : ∀ x, x ∈ R ↔ (x = m ∧ q) ∨ x ∈ r)
    (hl : ∀ x ∈ l, m < x) (hr : ∀ x ∈ r, m < x) (ih : Spec F l r res) :
    (F p q → Spec F L R (m :: res)) ∧ (¬ F p q → Spec F L R res) := by
  have above : ∀ x ∈ res, m < x := fun x hx => by
    have h := (ih.2 x).1 hx
    by_cases h1 : x ∈ l
    · exact hl x h1
    · by_cases h2 : x ∈ r
      · exact hr x h2
      · rw [eq_false h1, eq_false h2] at h
        exact absurd h hF
  have key : ∀ x, F (x ∈ L) (x ∈ R) ↔ (x = m ∧ F p q) ∨ x ∈ res := fun x => by
    rw [propext (hL x), propext (hR x)]
    by_cases hx : x = m
    · subst hx
      rw [eq_false fun h => Nat.lt_irrefl _ (hl x h), eq_false fun h => Nat.lt_irrefl _ (hr x h),
        eq_false fun h => Nat.lt_irrefl _ (above x h)]
      simp only [true_and, or_false]
    · rw [ih.2 x]
      simp only [hx, false_and, false_or]
  refine ⟨fun hpq => ⟨ss_cons.2 ⟨above, ih.1⟩, fun x => ?_⟩, fun hpq => ⟨ih.1, fun x => ?_⟩⟩
  · rw [key x, List.mem_cons, and_iff_left hpq]
  · rw [key x]
    exact (or_iff_right fun h => hpq h.2).symm

theorem peel_lt (hl : StrictSorted (a :: l)) (hr : StrictSorted (b :: r)) (hab : a < b)
    (ih : StrictSorted l → StrictSorted (b :: r) → Spec F l (b :: r) res) :
    (F True False → Spec F (a :: l) (b :: r) (a :: res)) ∧ (¬ F True False → Spec F (a :: l) (b :: r) res) :=
  peel F hF True False (by simp) (by simp) (ss_cons.1 hl).1 (lt_all hab hr) (ih (ss_cons.1 hl).2 hr)

theorem peel_eq (hl : StrictSorted (a :: l)) (hr : StrictSorted (a :: r))
    (ih : StrictSorted l → StrictSorted r → Spec F l r res) :
    (F True True → Spec F (a :: l) (a :: r) (a :: res)) ∧ (¬ F True True → Spec F (a :: l) (a :: r) res) :=
  peel F hF True True (by simp) (by simp) (ss_cons.1 hl).1 (ss_cons.1 hr).1 (ih (ss_cons.1 hl).2 (ss_cons.1 hr).2)

theorem peel_gt (hl : StrictSorted (a :: l)) (hr : StrictSorted (b :: r)) (h1 : ¬ a < b) (h2 : ¬ a = b)
    (ih : StrictSorted (a :: l) → StrictSorted r → Spec F (a :: l) r res) :
    (F False True → Spec F (a :: l) (b :: r) (b :: res)) ∧ (¬ F False True → Spec F (a :: l) (b :: r) res) :=
  peel F hF False True (by simp) (by simp)
    (lt_all (Nat.lt_of_le_of_ne (Nat.le_of_not_lt h1) (Ne.symm h2)) hl) (ss_cons.1 hr).1 (ih hl (ss_cons.1 hr).2)
end

theorem union_spec (l r : List Nat) (hl : StrictSorted l) (hr : StrictSorted r) :
    StrictSorted (union l r) ∧ ∀ x, x ∈ union l r ↔ x ∈ l ∨ x ∈ r := by
  have hF : ¬ (False ∨ False) := fun h => h.elim id id
  fun_induction union l r with
  | case1 r => simp [hr]
  | case2 a l => simp [hl]
  | case3 a l b r hab ih => exact (peel_lt Or hF hl hr hab ih).1 (Or.inl trivial)
  | case4 a l r hnab ih => exact (peel_eq Or hF hl hr ih).1 (Or.inl trivial)
  | case5 a l b r hnab hne ih => exact (peel_gt Or hF hl hr hnab hne ih).1 (Or.inr trivial)

theorem inter_spec (l r : List Nat) (hl : StrictSorted l) (hr : StrictSorted r) :
    StrictSorted (inter l r) ∧ ∀ x, x ∈ inter l r ↔ x ∈ l ∧ x ∈ r := by
  have hF : ¬ (False ∧ False) := And.left
  fun_induction inter l r with
  | case1 r => simp [ss_nil]
  | case2 a l => simp [ss_nil]
  | case3 a l r ih => exact (peel_eq And hF hl hr ih).1 ⟨trivial, trivial⟩
  | case4 a l b r hne hlt ih => exact (peel_lt And hF hl hr hlt ih).2 And.right
  | case5 a l b r hne hnlt ih => exact (peel_gt And hF hl hr hnlt hne ih).2 And.left

theorem diff_spec (l r : List Nat) (hl : StrictSorted l) (hr : StrictSorted r) :
    StrictSorted (diff l r) ∧ ∀ x, x ∈ diff l r ↔ x ∈ l ∧ x ∉ r := by
  have hF : ¬ (False ∧ ¬ False) := And.left
  fun_induction diff l r with
  | case1 r => simp [ss_nil]
  | case2 a l => simp [hl]
  | case3 a l b r hab ih => exact (peel_lt (fun p q => p ∧ ¬ q) hF hl hr hab ih).1 ⟨trivial, id⟩
  | case4 a l r hnab ih => exact (peel_eq (fun p q => p ∧ ¬ q) hF hl hr ih).2 fun h => h.2 trivial
  | case5 a l b r hnab hne ih => exact (peel_gt (fun p q => p ∧ ¬ q) hF hl hr hnab hne ih).2 And.left

theorem symDiff_spec (l r : List Nat) (hl : StrictSorted l) (hr : StrictSorted r) :
    StrictSorted (symDiff l r) ∧ ∀ x, x ∈ symDiff l r ↔ (x ∈ l ∧ x ∉ r) ∨ (x ∈ r ∧ x ∉ l) := by
  have hF : ¬ ((False ∧ ¬ False) ∨ (False ∧ ¬ False)) := fun h => h.elim And.left And.left
  fun_induction symDiff l r with
  | case1 r => simp [hr]
  | case2 a l => simp [hl]
  | case3 a l r ih =>
    exact (peel_eq (fun p q => (p ∧ ¬ q) ∨ (q ∧ ¬ p)) hF hl hr ih).2 fun h => h.elim (·.2 trivial) (·.2 trivial)
  | case4 a l b r hne hlt ih =>
    exact (peel_lt (fun p q => (p ∧ ¬ q) ∨ (q ∧ ¬ p)) hF hl hr hlt ih).1 (Or.inl ⟨trivial, id⟩)
  | case5 a l b r hne hnlt ih =>
    exact (peel_gt (fun p q => (p ∧ ¬ q) ∨ (q ∧ ¬ p)) hF hl hr hnlt hne ih).1 (Or.inr ⟨trivial, id⟩)

end Rpki.AsnSet
