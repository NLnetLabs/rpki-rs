/-
  Two small decoders: trust anchor locators (`Tal.decodeTal`, first part) and the content of certificate requests
  (`CsrDer.decodeContent`, second part).  What they accept has what the accessors of the decoded values rely on.
-/
import Rpki.Model.Tal
import Rpki.Model.CsrDer
namespace Rpki.Tal
open Rpki.Der Rpki.CertDer

/-- `talUri` tries rsync first, so a line reported as HTTPS is also known not to be an rsync URI. -/
def UriValid : TalUri → Prop
  | .rsync b => ∃ u, Uri.Rsync.fromBytes b = .ok u
  | .https b => (∃ u, Uri.Https.fromBytes b = .ok u) ∧ ∀ u, Uri.Rsync.fromBytes b ≠ .ok u

theorem talUri_valid (line : Bytes) (u : TalUri) (h : talUri line = some u) : UriValid u := by
  revert h
  fun_cases talUri line <;> intro h <;> try (cases h; done)
  · cases h; exact ⟨_, ‹Uri.Rsync.fromBytes line = .ok _›⟩
  · cases h
    exact ⟨⟨_, ‹Uri.Https.fromBytes line = .ok _›⟩, fun u hu => nomatch ‹Uri.Rsync.fromBytes line = .error _›.symm.trans hu⟩

theorem takeUris_valid (fuel : Nat) (b : Bytes) (acc uris : List TalUri) (rest : Bytes)
    (hacc : ∀ u ∈ acc, UriValid u) (h : takeUris fuel b acc = some (uris, rest)) : ∀ u ∈ uris, UriValid u := by
  revert h hacc
  fun_induction takeUris fuel b acc <;> intro hacc h <;> try (cases h; done)
  · cases h; exact fun u hu => hacc u (List.mem_reverse.mp hu)
  next ih =>
    refine ih (fun u hu => ?_) h
    rcases List.mem_cons.mp hu with rfl | h1
    · exact talUri_valid _ _ ‹talUri _ = some _›
    · exact hacc u h1

/-- `Tal::read_named`: every URI is a valid rsync or HTTPS URI, the key is one `PublicKey::decode` accepts. -/
theorem decodeTal_spec (b : Bytes) (uris : List TalUri) (alg : KeyAlg) (unused : Nat) (bits : Bytes)
    (h : decodeTal b = some (uris, alg, unused, bits)) :
    (∀ u ∈ uris, UriValid u) ∧ ∃ key, decodeKey key = some (alg, unused, bits) := by
  revert h
  fun_cases decodeTal b <;> intro h <;> try cases h
  obtain ⟨k, h3, e⟩ := Option.map_eq_some_iff.1 h
  cases e
  exact ⟨takeUris_valid _ _ [] _ _ nofun ‹takeUris _ _ _ = some _›, _, h3⟩

theorem preferHttps_perm (uris : List TalUri) : (preferHttps uris).Perm uris := by
  unfold preferHttps
  have := List.filter_append_perm (fun u => match u with | TalUri.https _ => true | TalUri.rsync _ => false) uris
  refine List.Perm.trans ?_ this
  apply List.Perm.append_left
  apply List.Perm.of_eq
  apply List.filter_congr
  intro u _
  cases u <;> rfl

end Rpki.Tal

namespace Rpki.CsrDer
open Rpki.Der

/-- `RpkiCaCsr::decode`: an accepted CA request carries basic constraints, key usage and a subject information
access; `BgpsecCsr::decode`: an extended key usage, when there, names the router purpose. -/
theorem decodeContent_profile (router : Bool) (raw sig : Bytes) (d : CsrD) (h : decodeContent router raw sig = some d) :
    (router = false → d.basicCa.isSome ∧ d.keyUsage.isSome ∧ d.sia.isSome) ∧ (router = true → d.eku ≠ some false) := by
  revert h
  fun_cases decodeContent router raw sig <;> intro h <;> try (cases h; done)
  · cases h; exact ⟨fun e => (nomatch ‹router = true›.symm.trans e), fun _ => ‹¬_ = some false›⟩
  · cases h; exact ⟨fun _ => ⟨rfl, rfl, rfl⟩, fun e => absurd e ‹¬router = true›⟩

end Rpki.CsrDer
