/-
  From the certificate path to the signed object on it: the steps that keep `C01.Under`, and what a decoded signed
  object hands to validation (canonical claims of its EE certificate, the attribute values the decoder recorded).
  It imports `Props/C01` because it continues C01's theorems about one `validateCa` / `validateEe` step along a path
  that ends in a signed object; C02 starts from here.
-/
import Rpki.Props.C01
import Rpki.Proofs.CmsDerLemmas
import Rpki.Gen.BerMonoGen

namespace Rpki.SigObj
open Rpki.Cert

theorem validateAt_ee {digest : Bytes → Bytes} {o : Obj} {i r : RC} {now : Int}
    (h : validateAt digest o i now = some r) : validateEe o.ee i now = some r := by
  revert h
  fun_cases validateAt digest o i now <;> intro h <;> first | cases h | exact h

theorem parseAttrsM_of_der (ber strict : Bool) (attrs : Bytes) (x : Bytes × Bytes × X509.Civil)
    (h : parseAttrs strict attrs = some x) : parseAttrsM ber strict attrs = some x := by
  cases ber with
  | false => rw [parseAttrsM_false]; exact h
  | true => rw [parseAttrs_monoEq strict attrs (by simp [h])]; exact h

/-- The attribute values validation parses (with the DER reader) are those the decoder of either mode returned. -/
theorem attrs_of_decoded {ber strict : Bool} {attrs ct md ct' md' : Bytes} {st st' : X509.Civil}
    (hd : parseAttrsM ber strict attrs = some (ct, md, st)) (h : parseAttrs strict attrs = some (ct', md', st')) :
    ct' = ct ∧ md' = md ∧ st' = st := by
  have := (parseAttrsM_of_der ber strict attrs _ h).symm.trans hd
  injection this with this; injection this with e1 this; injection this with e2 e3
  exact ⟨e1, e2, e3⟩

end Rpki.SigObj

namespace Rpki.Props.C01
open Rpki.Cert Rpki.SigObj

theorem Under.step {root i r : RC} {f : Facts} {now : Int} (hf : ClaimsCanon f) (hi : Under root i)
    (h : validateCa f i now = some r ∨ validateEe f i now = some r) : Under root r :=
  hi.trans (validated_subset f i r now hf hi.1 h)

theorem Under.ta {ta : Facts} {t0 : Int} {rta : RC} (hta : ClaimsCanon ta) (h0 : validateTa ta t0 = some rta) :
    Under rta rta := .root (validateTa_canon ta t0 rta hta h0)

theorem Under.chain {root rc r : RC} {cas : List (Facts × Int)} (hrc : Under root rc)
    (hf : ∀ p ∈ cas, ClaimsCanon p.1) (h : validateChain rc cas = some r) : Under root r :=
  hrc.trans (chain_monotone cas rc r hrc.1 hf h)

theorem Under.object {root i r : RC} {digest : Bytes → Bytes} {o : Obj} {now : Int} (hf : ClaimsCanon o.ee)
    (hi : Under root i) (h : validateAt digest o i now = some r) : Under root r :=
  hi.step hf (Or.inr (validateAt_ee h))

end Rpki.Props.C01

namespace Rpki.Props.C02
open Rpki.Cert Rpki.SigObj Rpki.Der Rpki.CmsDer Rpki.CertDer
abbrev Bytes := List Nat

theorem claimsCanon_sigObjM (ber : Bool) (b : Bytes) (o : SigObjD) (hb : AllBytes b) (hd : decodeSigObjM ber b = some o)
    (f : Facts) (e4 : f.v4 = shiftV4 o.cert.v4) (e6 : f.v6 = o.cert.v6) (ea : f.asn = o.cert.asn) :
    C01.ClaimsCanon f := by
  obtain ⟨_, cc, rest, hcc, htc⟩ := decodeSigObj_specM ber b o hb hd
  exact C01.claimsCanon_of_decoded e4 e6 ea (takeCert_canonM ber cc o.cert rest hcc htc)

/-- one CA certificate of the chain as it comes in: octets, what the decoder read, the mode flag of the inspection,
the verdict of its signature check, the evaluation time -/
structure CaInput where
  octets : Bytes
  decoded : Decoded
  strict : Bool
  sigOk : Bool
  now : Int

def CaInput.facts (c : CaInput) : Facts × Int := (toFacts c.decoded false c.strict c.sigOk, c.now)

theorem CaInput.claimsCanon (cas : List CaInput)
    (hcas : ∀ c ∈ cas, AllBytes c.octets ∧ decodeCert c.octets = some c.decoded) :
    ∀ p ∈ cas.map CaInput.facts, C01.ClaimsCanon p.1 := by
  intro p hp
  obtain ⟨c, hc, rfl⟩ := List.mem_map.1 hp
  exact C01.claimsCanon_of_octets c.octets c.decoded (hcas c hc).1 (hcas c hc).2 false c.strict c.sigOk

/-- Trust anchor → CA* → signed object, all read from octets: the validated EE certificate of the object lies under
the trust anchor. -/
theorem object_octets_under_trust_anchor
    (bta : Bytes) (dta : Decoded) (hbta : AllBytes bta) (hdta : decodeCert bta = some dta)
    (strictTa sigTa : Bool) (t0 : Int)
    (cas : List CaInput) (hcas : ∀ c ∈ cas, AllBytes c.octets ∧ decodeCert c.octets = some c.decoded)
    (b : Bytes) (o : SigObjD) (hb : AllBytes b) (hd : decodeSigObj b = some o)
    (sigKeyOk eeSigOk : Bool) (sigInput : Bytes) (now : Int) (rta rca cert : RC)
    (h0 : validateTa (toFacts dta false strictTa sigTa) t0 = some rta)
    (h1 : C01.validateChain rta (cas.map CaInput.facts) = some rca)
    (hv : validateAt Sha.sha256N (toObj o sigKeyOk sigInput eeSigOk) rca now = some cert) : C01.Under rta cert :=
  ((C01.Under.ta (C01.claimsCanon_of_octets bta dta hbta hdta false strictTa sigTa) h0).chain
    (CaInput.claimsCanon cas hcas) h1).object
    (claimsCanon_sigObjM false b o hb (by rw [decodeSigObjM_false]; exact hd) _ rfl rfl rfl) hv

end Rpki.Props.C02
