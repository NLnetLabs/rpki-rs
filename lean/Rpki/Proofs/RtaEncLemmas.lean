/-
  `RtaDer.decodeAttestation` reads back what `RtaEnc.encodeAttestation` writes, and `RtaDer.decodeRta` what
  `RtaEnc.encodeRta` writes around it.
-/
import Rpki.Model.RtaEnc
import Rpki.Proofs.CertEncLemmas
import Rpki.Proofs.CmsEncLemmas
namespace Rpki.RtaEnc
open Rpki.Der Rpki.CertDer Rpki.RtaDer Rpki.Chain Rpki.CertEnc Rpki.Consts

theorem rtaKeys_enc (keys : List Bytes) (hk : ∀ k ∈ keys, k.length = 20) :
    rtaKeys ((keys.map (tlv tagOctetString)).flatten) = some keys := by
  unfold rtaKeys
  rw [foldPrim_items tagOctetString (by decide) (by decide) _ keys _ [] (items_length_le tagOctetString keys)]
  refine Lists.fold_collect _ (fun k => if keyIdOk k then some k else none) (fun acc k => ?_) keys keys [] ?_
  · cases keyIdOk k <;> rfl
  · exact List.map_congr_left fun k hk' => if_pos (decide_eq_true (hk k hk'))

structure WF (a : Attestation) : Prop where
  keys : ∀ k ∈ a.keys, k.length = 20
  v4 : Canon IpDer.maxAddr a.v4 ∧ ∀ b ∈ a.v4, IpDer.V4Shaped b
  v6 : Canon IpDer.maxAddr a.v6
  asn : Canon AsDer.maxAs a.asn
  some : a.asn ≠ [] ∨ a.v4 ≠ [] ∨ a.v6 ≠ []

theorem rtaBlocks_enc (W : Nat) (c : List Blk) (hc : Canon IpDer.maxAddr c)
    (hl : IpDer.blocksLoop W ((c.map IpDer.encodeBlock).flatten).length ((c.map IpDer.encodeBlock).flatten) = some c) :
    rtaBlocks W (IpDer.encodeBlocks c) = some c := by
  unfold rtaBlocks IpDer.encodeBlocks
  rw [(takeCons_reads tagSeq _).2]
  simp only [ne_eq, not_true_eq_false, if_false, hl, Option.map_some, Chain.fromIter_canon_id IpDer.maxAddr c hc]

theorem rtaAsRes_enc (asn : List Blk) (hc : Canon AsDer.maxAs asn) (rest : Bytes)
    (hrest : rest = [] ∨ ∃ c r, rest = tlv 0xA1 c ++ r) :
    rtaAsRes (asPart asn ++ rest) = some (if asn = [] then none else some asn, rest) := by
  unfold rtaAsRes asPart
  by_cases he : asn = []
  · rw [if_pos he, if_pos he, List.nil_append]
    rcases hrest with rfl | ⟨c, r, rfl⟩
    · rfl
    · rw [(takeOptCons_reads_other 0xA0 0xA1 c).1 r]
  · simp (disch := decide) only [he, if_false, takeOptCons_reads, takeCons_reads, AsDer.decodeBlocks_encode asn hc,
      ne_eq, not_true_eq_false, Option.map_some]

theorem rtaIpRes_enc (v4 v6 : List Blk) (h4 : Canon IpDer.maxAddr v4) (s4 : ∀ b ∈ v4, IpDer.V4Shaped b)
    (h6 : Canon IpDer.maxAddr v6) :
    rtaIpRes (ipPart v4 v6) = some (if v4 = [] ∧ v6 = [] then (none, none) else (some v4, some v6), []) := by
  have b4 := rtaBlocks_enc 32 v4 h4 (IpDer.blocksLoop32_encode v4 _ (IpDer.length_le_encodeBlocks v4) h4.1 s4)
  have b6 := rtaBlocks_enc 128 v6 h6 (IpDer.blocksLoop_encode v6 _ (IpDer.length_le_encodeBlocks v6) h6.1)
  have hne : ¬ ([0, 2] : Bytes) = [0, 1] := by decide
  unfold rtaIpRes ipPart
  by_cases he : v4 = [] ∧ v6 = []
  · rw [if_pos he, if_pos he]; rfl
  · rw [if_neg he, if_neg he]
    rw [(takeOptCons_reads 0xA1 _).2]
    have hitems := foldCons_seqs rtaFamily
      [tlv tagOctetString [0, 1] ++ IpDer.encodeBlocks v4, tlv tagOctetString [0, 2] ++ IpDer.encodeBlocks v6] (none, none)
    simp only [seqs, List.map_cons, List.map_nil, List.flatten_cons, List.flatten_nil, List.append_nil] at hitems
    simp (disch := decide) only [takeCons_reads, hitems, List.foldlM_cons, List.foldlM_nil, rtaFamily, takePrim_reads,
      b4, b6, hne, ne_eq, not_true_eq_false, if_false, if_true, Option.isSome_none, Bool.false_eq_true, Option.map_some,
      Option.bind_eq_bind, Option.bind_some, pure]

theorem takeResources_enc (a : Attestation) (h : WF a) :
    takeResources (asPart a.asn ++ ipPart a.v4 a.v6) = some (a.v4, a.v6, a.asn) := by
  have hrest : ipPart a.v4 a.v6 = [] ∨ ∃ c r, ipPart a.v4 a.v6 = tlv 0xA1 c ++ r := by
    unfold ipPart
    by_cases he : a.v4 = [] ∧ a.v6 = []
    · exact Or.inl (if_pos he)
    · exact Or.inr ⟨_, [], (if_neg he).trans (List.append_nil _).symm⟩
  unfold takeResources
  simp only [rtaAsRes_enc a.asn h.asn _ hrest, rtaIpRes_enc a.v4 a.v6 h.v4.1 h.v4.2 h.v6, ne_eq, not_true_eq_false,
    if_false]
  by_cases ha : a.asn = []
  · by_cases hi : a.v4 = [] ∧ a.v6 = []
    · exact absurd h.some (by simp [ha, hi])
    · simp [ha, hi]
  · by_cases hi : a.v4 = [] ∧ a.v6 = [] <;> simp [ha, hi]

/-- `ResourceTaggedAttestation::take_from` reads back what `ResourceTaggedAttestation::encode_ref` writes. -/
theorem decodeAttestation_encodeAttestation (a : Attestation) (h : WF a) :
    Reads decodeAttestation (encodeAttestation a) fun _ => some a := .of fun rest => by
  unfold decodeAttestation encodeAttestation
  unfold rtaVersion
  simp (disch := decide) only [List.append_assoc, takeCons_reads, takeOptCons_reads_other, rtaKeys_enc a.keys h.keys,
    takeResources_enc a h, CmsEnc.takeDigestAlg_enc, takePrim_reads, ne_eq, not_true_eq_false, if_false]

theorem flatten_seqs (cs : List Bytes) : ((cs.map (tlv tagSeq)).flatten) = ((cs.map (tlv tagSeq)).flatten) := rfl

theorem rtaCrls_enc (crlCs : List Bytes) (crls : List CrlDer.CrlD) (hcrls : crlCs.map CrlDer.crlInner = crls.map some)
    (c : Bytes) :
    rtaCrls ((if crlCs.map (tlv tagSeq) = [] then [] else tlv 0xA1 (crlCs.map (tlv tagSeq)).flatten) ++ tlv tagSet c) =
      some (crls, tlv tagSet c) := by
  unfold rtaCrls
  by_cases he : crlCs = []
  · subst he
    cases crls with
    | nil => rw [List.map_nil, if_pos rfl, List.nil_append, (takeOptCons_reads_other 0xA1 tagSet c).2]
    | cons _ _ => cases hcrls
  · rw [if_neg (fun h => he (List.map_eq_nil_iff.1 h)), (takeOptCons_reads 0xA1 _).1 _]
    simp only [foldCons_items' tagSeq (by decide) (by decide),
      Lists.fold_collect rtaCrl CrlDer.crlInner (fun _ _ => rfl) crlCs crls [] hcrls, Option.map_some, List.nil_append]

/-- `Rta::decode` reads back what `MultiSignedObject::encode_ref` writes around content octets the attestation reader
accepts, certificates and CRLs (given as the contents of their SEQUENCEs together with what their readers return) and
signer infos whose attributes parse with the attestation's content type. -/
theorem decodeRta_encodeRta (content : Bytes) (att : Attestation) (hatt : decodeAttestation content = some att)
    (certCs : List Bytes) (certs : List Decoded) (hcerts : certCs.map certBody = certs.map some)
    (crlCs : List Bytes) (crls : List CrlDer.CrlD) (hcrls : crlCs.map CrlDer.crlInner = crls.map some)
    (signers : List Signer)
    (hs : ∀ s ∈ signers, s.sid.length = 20 ∧ SigObj.parseAttrs true s.attrs = some (oidCtRta, s.messageDigest, s.signingTime)) :
    Reads decodeRta (encodeRta content (certCs.map (tlv tagSeq)) (crlCs.map (tlv tagSeq)) signers) fun _ =>
      some { content := content, att := att, certs := certs, crls := crls, signers := signers } := .of fun rest => by
  have hsig : foldCons tagSeq rtaSigner ((signers.map fun s => CmsEnc.signerInfoEnc s.sid s.attrs s.signature).flatten).length
      ((signers.map fun s => CmsEnc.signerInfoEnc s.sid s.attrs s.signature).flatten) [] = some signers := by
    -- each signer info as `tlv tagSeq (…)` with the appends nested to the right: the shape of `foldCons_items'` and of
    -- `signerInfo_enc`
    have hitems : (signers.map fun s => CmsEnc.signerInfoEnc s.sid s.attrs s.signature) =
        ((signers.map fun s => tlv tagInt [3] ++ (tlv 0x80 s.sid ++ (CmsEnc.digestAlgEnc ++ (tlv 0xA0 s.attrs ++
          (CmsEnc.cmsSigAlgEnc ++ tlv tagOctetString s.signature))))).map (tlv tagSeq)) := by
      rw [List.map_map]
      exact List.map_congr_left fun s _ => by simp only [CmsEnc.signerInfoEnc, List.append_assoc, Function.comp]
    rw [hitems, foldCons_items' tagSeq (by decide) (by decide)]
    refine Lists.fold_collect rtaSigner
      (fun c => (CmsDer.signerInfo oidCtRta c).map fun (sid, attrs, md, st, sig) => ⟨sid, attrs, md, st, sig⟩)
      (fun acc c => ?_) _ signers [] ?_
    · unfold rtaSigner; cases CmsDer.signerInfo oidCtRta c <;> rfl
    · rw [List.map_map]
      exact List.map_congr_left fun s hs' => by
        simp only [Function.comp, CmsEnc.signerInfo_enc oidCtRta s.sid s.attrs s.messageDigest s.signature s.signingTime
          (hs s hs').1 (hs s hs').2, Option.map_some]
  unfold decodeRta encodeRta rtaSignedData rtaEncap
  simp (disch := decide) only [List.append_assoc, takeCons_reads, takePrim_reads, CmsEnc.skipU8_enc,
    CmsEnc.takeDigestAlg_enc, foldCons_items' tagSeq,
    Lists.fold_collect rtaCert certBody (fun _ _ => rfl) certCs certs [] hcerts, rtaCrls_enc crlCs crls hcrls, hsig, hatt,
    List.nil_append, ne_eq, not_true_eq_false, if_false, Option.map_some]

end Rpki.RtaEnc
