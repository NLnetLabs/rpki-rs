import Rpki.Proofs.ChainLemmas
import Rpki.Proofs.NatLemmas
/-! `Chain::difference` on two canonical chains yields the canonical chain of the set difference. One
iteration of its loop is split into the tuple it computes (`stepR`, characterised by `Emits` and `Moves`) and the way it
goes on from that tuple; while the second chain lasts, every iteration is one use of `diff_step` with the frontier at
the lower of the two upper bounds. -/
namespace Rpki.Chain

/-- the comparison of the upper bounds, made when `s` starts at or below `o.hi`: the block that ends first
is done with -/
def stepMeet (s o : Blk) (acc : List Blk) : List Blk × Nat × Bool × Bool :=
  if s.hi < o.hi then (acc, s.lo, true, false)
  else if s.hi = o.hi then (acc, s.lo, true, true)
  else (acc, o.hi + 1, false, true)

/-- the tuple `r` computed by one iteration (`diffLoop` writes `stepMeet` out three times) -/
def stepR (s o : Blk) (acc : List Blk) : List Blk × Nat × Bool × Bool :=
  if s.lo < o.lo then
    if s.hi < o.lo then (s :: acc, s.lo, true, false)
    else if s.hi = o.lo then (⟨s.lo, o.lo - 1⟩ :: acc, s.lo, true, false)
    else stepMeet s o (⟨s.lo, o.lo - 1⟩ :: acc)
  else if s.lo = o.lo then stepMeet s o acc
  else if s.lo < o.hi then stepMeet s o acc
  else if s.lo = o.hi then
    if s.lo = s.hi then (acc, s.lo, true, true) else (acc, o.hi + 1, false, true)
  else (acc, s.lo, false, true)

/-- the loop on what is left of the two chains as lists, either of which may have run out -/
def diffRest (fuel : Nat) : List Blk → List Blk → List Blk → List Blk
  | [], _, acc => acc.reverse
  | s :: ss, [], acc => diffLoop fuel s ss none [] acc
  | s :: ss, o :: os, acc => diffLoop fuel s ss (some o) os acc

theorem diffLoop_none (fuel : Nat) (s : Blk) (ss os acc : List Blk) :
    diffLoop (fuel + 1) s ss none os acc = diffRest fuel ss [] (s :: acc) := by
  cases ss <;> rfl

/-- the second half of an iteration of `diffLoop`, what it does with the tuple `r`: under a name so that the proof of
`diffLoop_some` can put a variable for the tuple and split on its flags -/
def diffCont (fuel : Nat) (s : Blk) (ss : List Blk) (o : Blk) (os : List Blk)
    (r : List Blk × Nat × Bool × Bool) : List Blk :=
  let (o', os') : Option Blk × List Blk :=
    if r.2.2.2 then (match os with | x :: xs => (some x, xs) | [] => (none, [])) else (some o, os)
  if r.2.2.1 then
    match ss with
    | s' :: ss' => diffLoop fuel s' ss' o' os' r.1
    | [] => r.1.reverse
  else diffLoop fuel ⟨r.2.1, s.hi⟩ ss o' os' r.1

theorem diffLoop_some (fuel : Nat) (s : Blk) (ss : List Blk) (o : Blk) (os acc : List Blk) :
    diffLoop (fuel + 1) s ss (some o) os acc =
      diffRest fuel (cond (stepR s o acc).2.2.1 ss (⟨(stepR s o acc).2.1, s.hi⟩ :: ss))
        (cond (stepR s o acc).2.2.2 os (o :: os)) (stepR s o acc).1 := by
  show diffCont fuel s ss o os (stepR s o acc) = _
  obtain ⟨acc', lo', ts, to⟩ := stepR s o acc
  cases ts <;> cases to <;> cases ss <;> cases os <;> rfl

/-- what the tuple is to say of the accumulator: the part of `s` below `o` is put out -/
abbrev Emits (s o : Blk) (acc : List Blk) (r : List Blk × Nat × Bool × Bool) : Prop :=
  r.1 = acc ∧ o.lo ≤ s.lo ∨ ∃ e, r.1 = ⟨s.lo, e⟩ :: acc ∧ s.lo < o.lo ∧ e = min s.hi (o.lo - 1)

/-- and of how to go on: `s` is done with when it ends at or before `o` does and is otherwise cut to what
lies above `o`; `o` is done with when it ends at or before `s` does (it may also be kept when both end
together) -/
abbrev Moves (s o : Blk) (r : List Blk × Nat × Bool × Bool) : Prop :=
  r.2.2 = (true, false) ∧ s.hi ≤ o.hi ∨ r.2.2 = (true, true) ∧ s.hi = o.hi ∨
    r.2.2 = (false, true) ∧ o.hi < s.hi ∧ r.2.1 = max s.lo (o.hi + 1)

theorem stepMeet_spec {s o : Blk} (acc : List Blk) (h : s.lo ≤ o.hi) :
    (stepMeet s o acc).1 = acc ∧ Moves s o (stepMeet s o acc) := by
  fun_cases stepMeet s o acc
  next h1 => exact ⟨rfl, .inl ⟨rfl, Nat.le_of_lt h1⟩⟩
  next h1 h2 => exact ⟨rfl, .inr (.inl ⟨rfl, h2⟩)⟩
  next h1 h2 => exact ⟨rfl, .inr (.inr ⟨rfl, Nat.lt_of_le_of_ne (Nat.le_of_not_lt h1) (Ne.symm h2),
        (Nat.max_eq_right (Nat.le_succ_of_le h)).symm⟩)⟩

theorem stepR_spec {s o : Blk} (acc : List Blk) (hs : s.lo ≤ s.hi) (ho : o.lo ≤ o.hi) :
    Emits s o acc (stepR s o acc) ∧ Moves s o (stepR s o acc) := by
  have cut : ¬ s.hi < o.lo → o.lo - 1 = min s.hi (o.lo - 1) := fun h2 =>
    (Nat.min_eq_right (Nat.le_trans (Nat.sub_le ..) (Nat.le_of_not_lt h2))).symm
  have meet : o.lo ≤ s.lo → s.lo ≤ o.hi → Emits s o acc (stepMeet s o acc) ∧ Moves s o (stepMeet s o acc) :=
    fun hle h => ⟨.inl ⟨(stepMeet_spec acc h).1, hle⟩, (stepMeet_spec acc h).2⟩
  fun_cases stepR s o acc
  next h1 h2 =>
    exact ⟨.inr ⟨s.hi, rfl, h1, (Nat.min_eq_left (Nat.le_sub_one_of_lt h2)).symm⟩,
      .inl ⟨rfl, Nat.le_of_lt (Nat.lt_of_lt_of_le h2 ho)⟩⟩
  next h1 h2 h3 => exact ⟨.inr ⟨_, rfl, h1, cut h2⟩, .inl ⟨rfl, h3 ▸ ho⟩⟩
  next h1 h2 h3 =>
    obtain ⟨e, m⟩ := stepMeet_spec (⟨s.lo, o.lo - 1⟩ :: acc) (Nat.le_trans (Nat.le_of_lt h1) ho)
    exact ⟨.inr ⟨_, e, h1, cut h2⟩, m⟩
  next h1 h2 => exact meet (Nat.le_of_eq h2.symm) (h2 ▸ ho)
  next h1 h2 h3 => exact meet (Nat.le_of_not_lt h1) (Nat.le_of_lt h3)
  next h1 h2 h3 h4 h5 => exact ⟨.inl ⟨rfl, Nat.le_of_not_lt h1⟩, .inr (.inl ⟨rfl, h5 ▸ h4⟩)⟩
  next h1 h2 h3 h4 h5 =>
    exact ⟨.inl ⟨rfl, Nat.le_of_not_lt h1⟩, .inr (.inr ⟨rfl, Nat.lt_of_le_of_ne (h4 ▸ hs) (h4 ▸ h5),
      (Nat.max_eq_right (h4 ▸ Nat.le_succ _)).symm⟩)⟩
  next h1 h2 h3 h4 =>
    have h6 : o.hi < s.lo := Nat.lt_of_le_of_ne (Nat.le_of_not_lt h3) (Ne.symm h4)
    exact ⟨.inl ⟨rfl, Nat.le_of_not_lt h1⟩, .inr (.inr ⟨rfl, Nat.lt_of_lt_of_le h6 hs,
      (Nat.max_eq_left (Nat.succ_le_of_lt h6)).symm⟩)⟩

/-- one iteration, described by `Emits` and `Moves`, seen from the frontier `min s.hi o.hi`: both chains stay canonical,
together they get shorter, and what is returned for the new state is right for the old -/
theorem diff_iter {M : Nat} {s o : Blk} {ss os acc : List Blk} {r : List Blk × Nat × Bool × Bool}
    (hs : Canon M (s :: ss)) (ho : Canon M (o :: os)) (he : Emits s o acc r) (hm : Moves s o r) :
    Canon M (cond r.2.2.1 ss (⟨r.2.1, s.hi⟩ :: ss)) ∧ Canon M (cond r.2.2.2 os (o :: os)) ∧
    (cond r.2.2.1 ss (⟨r.2.1, s.hi⟩ :: ss)).length + (cond r.2.2.2 os (o :: os)).length
      ≤ ss.length + os.length + 1 ∧
    ∀ res, Puts M r.1 (fun x => mem (cond r.2.2.1 ss (⟨r.2.1, s.hi⟩ :: ss)) x ∧
        ¬ mem (cond r.2.2.2 os (o :: os)) x) res →
      Puts M acc (fun x => mem (s :: ss) x ∧ ¬ mem (o :: os) x) res := by
  obtain ⟨acc', lo', ts, to⟩ := r
  dsimp only [Emits, Moves] at he hm ⊢
  have hs1 := (canon_cons.1 hs).1
  have ho1 := (canon_cons.1 ho).1
  obtain ⟨hS, hR, hcS, hcR, hlen⟩ :
      (∀ x, mem (cond ts ss (⟨lo', s.hi⟩ :: ss)) x ↔ mem (s :: ss) x ∧ min s.hi o.hi < x) ∧
      (∀ x, min s.hi o.hi < x → (mem (cond to os (o :: os)) x ↔ mem (o :: os) x)) ∧
      Canon M (cond ts ss (⟨lo', s.hi⟩ :: ss)) ∧ Canon M (cond to os (o :: os)) ∧
      (cond ts ss (⟨lo', s.hi⟩ :: ss)).length + (cond to os (o :: os)).length
        ≤ ss.length + os.length + 1 := by
    rcases hm with ⟨e, h⟩ | ⟨e, h⟩ | ⟨e, h, hl⟩ <;> cases e
    · rw [Nat.min_eq_left h]
      exact ⟨mem_tail_iff hs, fun _ _ => Iff.rfl, (canon_cons.1 hs).2.2, ho, Nat.le_refl _⟩
    · rw [Nat.min_eq_left (Nat.le_of_eq h)]
      exact ⟨mem_tail_iff hs, h ▸ mem_tail_agree ho, (canon_cons.1 hs).2.2, (canon_cons.1 ho).2.2,
        Nat.le_succ _⟩
    · rw [Nat.min_eq_right (Nat.le_of_lt h)]
      exact ⟨mem_chop_iff hs hl h, mem_tail_agree ho,
        canon_chop hs (hl ▸ Nat.max_le.2 ⟨hs1.1, h⟩), (canon_cons.1 ho).2.2,
        Nat.le_of_eq (Nat.add_right_comm ..)⟩
  refine ⟨hcS, hcR, hlen, fun res hp => ?_⟩
  have step := diff_step hs ho (Nat.min_le_left ..) (Nat.min_le_right ..) hS hR
  rcases he with ⟨rfl, hle⟩ | ⟨e, rfl, hlt, rfl⟩
  · exact Puts.congr (fun x => (step x).symm.trans (or_iff_right fun h =>
      Nat.lt_irrefl _ (Nat.lt_of_lt_of_le h.2.2 (Nat.le_trans hle h.1)))) hp
  · refine Puts.emit ⟨Nat.le_min.2 ⟨hs1.1, Nat.le_sub_one_of_lt hlt⟩, Nat.le_trans (Nat.min_le_left ..) hs1.2⟩
      (fun x => (step x).symm.trans (or_congr_left ?_)) (fun x hx => ?_) hp
    · show _ ↔ s.lo ≤ x ∧ x ≤ min s.hi (o.lo - 1)
      rw [Arith.le_min_pred (Nat.zero_lt_of_lt hlt), Nat.le_min]
      exact and_congr_right fun _ =>
        ⟨fun h => ⟨h.1.1, h.2⟩, fun h => ⟨⟨h.1, Nat.le_of_lt (Nat.lt_of_lt_of_le h.2 ho1.1)⟩, h.2⟩⟩
    · -- the block put out ends at or below `s.hi`, which is followed by a gap, and below `o.lo`
      show min s.hi (o.lo - 1) + 1 < x
      obtain ⟨h0, h1⟩ := (hS x).1 hx.1
      have h2 : ¬ mem (o :: os) x := fun h => hx.2 ((hR x h1).2 h)
      refine Nat.lt_of_le_of_ne (Nat.succ_le_of_lt (Nat.lt_of_le_of_lt (Nat.le_min.2 ⟨Nat.min_le_left ..,
        Nat.le_trans (Nat.min_le_right ..) (Nat.le_trans (Nat.sub_le ..) ho1.1)⟩) h1)) fun e => ?_
      rcases Nat.le_total s.hi (o.lo - 1) with h | h
      · rw [Nat.min_eq_left h] at e
        exact not_mem_succ_hi hs (e ▸ h0)
      · rw [Nat.min_eq_right h, Nat.sub_add_cancel (Nat.zero_lt_of_lt hlt)] at e
        exact h2 (e ▸ mem_head_lo ho)

theorem diffRest_spec (M : Nat) : ∀ (fuel : Nat) (S R acc : List Blk), Canon M S → Canon M R →
    S.length + R.length ≤ fuel → Puts M acc (fun x => mem S x ∧ ¬ mem R x) (diffRest fuel S R acc) := by
  intro fuel
  induction fuel with
  | zero =>
    intro S R acc _ _ hf
    obtain rfl : S = [] := List.eq_nil_of_length_eq_zero (by omega)
    exact Puts.done acc fun x h => mem_nil x h.1
  | succ fuel ih =>
    intro S R acc hs hR hf
    cases S with
    | nil => exact Puts.done acc fun x h => mem_nil x h.1
    | cons s ss =>
      cases R with
      | nil =>
        show Puts M acc _ (diffLoop (fuel + 1) s ss none [] acc)
        rw [diffLoop_none]
        exact Puts.emit (canon_cons.1 hs).1 (fun x => (and_iff_left (mem_nil x)).trans
            (mem_cons.trans (or_congr_right (and_iff_left (mem_nil x)).symm)))
          (fun x hx => canon_tail_above hs hx.1)
          (ih ss [] (s :: acc) (canon_cons.1 hs).2.2 hR (by rw [List.length_cons] at hf; omega))
      | cons o os =>
        obtain ⟨he, hm⟩ := stepR_spec acc (canon_cons.1 hs).1.1 (canon_cons.1 hR).1.1
        obtain ⟨hs', hR', hlen, hput⟩ := diff_iter hs hR he hm
        show Puts M acc _ (diffLoop (fuel + 1) s ss (some o) os acc)
        rw [diffLoop_some]
        exact hput _ (ih _ _ _ hs' hR' (by simp only [List.length_cons] at hf; omega))

theorem difference_spec' (M : Nat) (a b : List Blk) (ha : Canon M a) (hb : Canon M b) :
    Canon M (difference a b) ∧ ∀ x, mem (difference a b) x ↔ (mem a x ∧ ¬ mem b x) := by
  have e : difference a b = diffRest (2 * (a.length + b.length) + 2) a b [] := by
    cases a <;> cases b <;> rfl
  rw [e]
  exact (diffRest_spec M _ a b [] ha hb (by omega)).runs

end Rpki.Chain
