/-
  What the mode-parametrized readers hand on, content and rest, are octets of their input in the order they have
  there, and at least the two octets of a header fewer (`Hands`).  Membership (`.sub`: what `AllBytes` needs) and
  length (`.size`: what the loops' termination needs) are its two projections.
-/
import Rpki.Proofs.SkipLemmas
namespace Rpki.Der

/-- A subsequence and not an infix: the octets of a constructed string's segments do not stand next to one another. -/
def Hands (b c rest : Bytes) : Prop := (c ++ rest).Sublist b ∧ c.length + rest.length + 2 ≤ b.length

theorem Hands.sub {b c rest : Bytes} (h : Hands b c rest) : c ⊆ b ∧ rest ⊆ b :=
  ⟨fun _ hx => h.1.subset (List.mem_append_left _ hx), fun _ hx => h.1.subset (List.mem_append_right _ hx)⟩

theorem allBytes_of_sub {b c : Bytes} (hb : AllBytes b) (h : c ⊆ b) : AllBytes c :=
  fun x hx => hb x (h hx)

theorem Hands.size {b c rest : Bytes} (h : Hands b c rest) : c.length + rest.length + 2 ≤ b.length := h.2

theorem Hands.mono {b b' c rest : Bytes} (h : Hands b c rest) (hb : b.Sublist b') : Hands b' c rest :=
  ⟨h.1.trans hb, Nat.le_trans h.2 hb.length_le⟩

theorem Hands.content {b c c' rest : Bytes} (h : Hands b c rest) (hc : c'.Sublist c) : Hands b c' rest :=
  ⟨(hc.append (List.Sublist.refl rest)).trans h.1, by have := hc.length_le; have := h.2; omega⟩

end Rpki.Der

namespace Rpki.CertDer
open Rpki.Der

theorem indefBodyM_hands (ber : Bool) (fuel : Nat) (cur c rest : Bytes) : indefBodyM ber fuel cur = some (c, rest) →
    Hands cur c rest := by
  fun_induction indefBodyM ber fuel cur generalizing c rest
  all_goals intro h
  -- the body matches on its input and reads it again: that second match is still in `h` (so below, twice more)
  all_goals try simp only [*] at h
  all_goals try (cases h; done)
  · cases h
    obtain ⟨hs, hlen⟩ := readLenX_suffixM ber _ _ _ ‹readLenXM ber _ = some _›
    exact ⟨(hs.sublist).trans (List.sublist_cons_self _ _), by simp only [List.length_nil, List.length_cons]; omega⟩
  · rename_i ih
    obtain ⟨⟨c1, rest1⟩, hb, e⟩ := Option.map_eq_some_iff.1 h
    obtain ⟨i1, i2⟩ := ih c1 rest1 hb
    cases e
    -- `skipOneM` leaves a suffix: the octets taken in front of it are the rest of `cur`
    obtain ⟨⟨pre, rfl⟩, hlen⟩ := skipOne_suffixM ber _ _ ‹skipOneM ber _ = some _›
    rw [List.length_append, Nat.add_sub_cancel, List.take_left' rfl]
    exact ⟨by rw [List.append_assoc]; exact (List.Sublist.refl _).append i1,
      by simp only [List.length_append] at hlen ⊢; omega⟩

end Rpki.CertDer

namespace Rpki.Der
open Rpki.CertDer

theorem readTlvIM_hands (ber : Bool) (b : Bytes) (t : Nat) (c rest : Bytes) (i : Bool) :
    readTlvIM ber b = some (t, c, rest, i) → Hands b c rest := by
  fun_cases readTlvIM ber b
  all_goals intro h
  all_goals try (cases h; done)
  · have hl := ‹readLenXM ber _ = some (Len.definite _, _)›
    have hlt := ‹¬ List.length _ < _›
    cases h
    obtain ⟨hs, hlen⟩ := readLenX_suffixM ber _ _ _ hl
    refine ⟨?_, ?_⟩
    · rw [List.take_append_drop]; exact hs.sublist.trans (List.sublist_cons_self _ _)
    · rw [List.length_take_of_le (Nat.le_of_not_lt hlt), List.length_drop, List.length_cons]; omega
  · have hl := ‹readLenXM ber _ = some (Len.indefinite, _)›
    obtain ⟨⟨c1, rest1⟩, hb, e⟩ := Option.map_eq_some_iff.1 h
    cases e
    exact (indefBodyM_hands ber _ _ _ _ hb).mono
      ((readLenX_suffixM ber _ _ _ hl).1.sublist.trans (List.sublist_cons_self _ _))

theorem readTlvM_hands (ber : Bool) (b : Bytes) (t : Nat) (c rest : Bytes) (h : readTlvM ber b = some (t, c, rest)) :
    Hands b c rest := by
  obtain ⟨⟨t1, c1, r1, i⟩, hi, e⟩ := Option.map_eq_some_iff.1 h
  cases e
  exact readTlvIM_hands ber b _ _ _ _ hi

theorem octetLeavesM_sublist (ber : Bool) (fuel : Nat) (b v : Bytes) : octetLeavesM ber fuel b = some v → v.Sublist b := by
  fun_induction octetLeavesM ber fuel b generalizing v
  all_goals intro h
  all_goals try simp only [*] at h
  all_goals try (cases h; done)
  · cases h; exact List.nil_sublist _
  · cases h; exact List.nil_sublist _
  · rename_i ha _ ihc ihr
    cases h
    refine ((?_ : List.Sublist _ _).append (ihr _ ‹_›)).trans (readTlvM_hands ber _ _ _ _ ‹readTlvM ber _ = some _›).1
    split at ha
    · exact ihc _ ha
    · cases ha; exact List.Sublist.refl _

theorem takeOptConsIM_hands (ber : Bool) (tag : Nat) (b c rest : Bytes) (i : Bool) :
    takeOptConsIM ber tag b = .ok (c, i) rest → Hands b c rest := by
  fun_cases takeOptConsIM ber tag b
  all_goals intro h
  all_goals try simp only [*] at h
  all_goals try (cases h; done)
  cases h
  exact readTlvIM_hands ber _ _ _ _ _ ‹readTlvIM ber _ = some _›

theorem takeOptConsM_hands (ber : Bool) (tag : Nat) (b c rest : Bytes) :
    takeOptConsM ber tag b = .ok c rest → Hands b c rest := by
  fun_cases takeOptConsM ber tag b
  all_goals intro h
  all_goals try (cases h; done)
  cases h
  exact takeOptConsIM_hands ber tag b _ _ _ ‹takeOptConsIM ber tag b = _›

theorem takeOptPrimM_hands (ber : Bool) (tag : Nat) (b c rest : Bytes) (h : takeOptPrimM ber tag b = .ok c rest) :
    Hands b c rest := by
  -- by steps: after `fun_cases` the guard `ber = true ∧ ..` would rewrite `ber` in the other hypotheses of the path
  unfold takeOptPrimM at h
  split at h
  · cases h
  obtain ⟨_, h⟩ := Lists.ite_eq_right h nofun
  obtain ⟨_, h⟩ := Lists.ite_eq_right h nofun
  split at h
  · split at h
    · split at h
      · cases h
      next c1 r1 hr =>
      split at h
      -- a constructed string: its leaves are octets of the content, in order
      next v hl => cases h; exact (readTlvM_hands ber _ _ _ _ hr).content (octetLeavesM_sublist ber _ _ _ hl)
      · cases h
    · cases h
  · split at h
    · cases h
    next hr => cases h; exact readTlvM_hands ber _ _ _ _ hr

theorem takeConsM_hands (ber : Bool) (tag : Nat) (b c rest : Bytes) : takeConsM ber tag b = some (c, rest) → Hands b c rest := by
  fun_cases takeConsM ber tag b
  all_goals intro h
  all_goals try (cases h; done)
  cases h
  exact takeOptConsM_hands ber tag b _ _ ‹takeOptConsM ber tag b = _›

theorem takePrimM_hands (ber : Bool) (tag : Nat) (b c rest : Bytes) : takePrimM ber tag b = some (c, rest) → Hands b c rest := by
  fun_cases takePrimM ber tag b
  all_goals intro h
  all_goals try (cases h; done)
  cases h
  exact takeOptPrimM_hands ber tag b _ _ ‹takeOptPrimM ber tag b = _›

theorem readTlv_hands (b : Bytes) (t : Nat) (c rest : Bytes) (h : readTlv b = some (t, c, rest)) : Hands b c rest :=
  readTlvM_hands false b t c rest (Rpki.readTlvM_false ▸ h)

theorem takeOptCons_hands (tag : Nat) (b c rest : Bytes) (h : takeOptCons tag b = .ok c rest) : Hands b c rest :=
  takeOptConsM_hands false tag b c rest (Rpki.takeOptConsM_false ▸ h)

theorem takeOptPrim_hands (tag : Nat) (b c rest : Bytes) (h : takeOptPrim tag b = .ok c rest) : Hands b c rest :=
  takeOptPrimM_hands false tag b c rest (Rpki.takeOptPrimM_false ▸ h)

end Rpki.Der

namespace Rpki.CertDer
open Rpki.Der

theorem takeOptBool_subM (ber : Bool) (b : Bytes) (x : Bool) (r : Bytes) : takeOptBoolM ber b = .ok x r → r ⊆ b := by
  fun_cases takeOptBoolM ber b
  all_goals intro h
  all_goals try (cases h; done)
  all_goals
    cases h
    exact (takeOptPrimM_hands ber _ b _ _ ‹takeOptPrimM ber tagBool b = _›).sub.2

end Rpki.CertDer

namespace Rpki.Der

theorem takeOptCons_subM (ber : Bool) (tag : Nat) (b c rest : Bytes) (h : takeOptConsM ber tag b = .ok c rest) :
    c ⊆ b ∧ rest ⊆ b := (takeOptConsM_hands ber tag b c rest h).sub

theorem takePrim_subM (ber : Bool) (tag : Nat) (b c rest : Bytes) (h : takePrimM ber tag b = some (c, rest)) :
    c ⊆ b ∧ rest ⊆ b := (takePrimM_hands ber tag b c rest h).sub

theorem takeCons_subM (ber : Bool) (tag : Nat) (b c rest : Bytes) (h : takeConsM ber tag b = some (c, rest)) :
    c ⊆ b ∧ rest ⊆ b := (takeConsM_hands ber tag b c rest h).sub

theorem takeOptCons_sub (tag : Nat) (b c rest : Bytes) (h : takeOptCons tag b = .ok c rest) :
    (∀ x ∈ c, x ∈ b) ∧ (∀ x ∈ rest, x ∈ b) :=
  takeOptCons_subM false tag b c rest (Rpki.takeOptConsM_false ▸ h)

theorem takePrim_sub (tag : Nat) (b c rest : Bytes) (h : takePrim tag b = some (c, rest)) :
    (∀ x ∈ c, x ∈ b) ∧ (∀ x ∈ rest, x ∈ b) :=
  takePrim_subM false tag b c rest (Rpki.takePrimM_false ▸ h)

theorem takeCons_sub (tag : Nat) (b c rest : Bytes) (h : takeCons tag b = some (c, rest)) :
    (∀ x ∈ c, x ∈ b) ∧ (∀ x ∈ rest, x ∈ b) :=
  takeCons_subM false tag b c rest (Rpki.takeConsM_false ▸ h)

end Rpki.Der
