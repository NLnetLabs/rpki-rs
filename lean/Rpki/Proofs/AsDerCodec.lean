/-
  The RFC 3779 AS resources extension in DER.  Round trip: what `AsResources::encode` writes for a canonical
  chain is read back as that chain.  Soundness: the reader hands every sub-reader octets of its input, so whatever
  it accepts consists of blocks within 32 bits, which `from_iter` then makes canonical.
-/
import Rpki.Proofs.X509Serial  -- `toNatBE_*`; with it comes Mathlib, under which `2 ^ k` elaborates otherwise
import Rpki.Proofs.DerLemmas
import Rpki.Proofs.ChainFromIter
import Rpki.Proofs.BerSub
namespace Rpki.AsDer
open Rpki.Der Rpki.Chain

theorem toNatBE_eq : toNatBE = X509.toNatBE := by
  funext c
  induction c with
  | nil => rfl
  | cons b bs ih => rw [toNatBE, X509.toNatBE, ih]

theorem toNatBE_concat (l : Bytes) (d : Nat) : toNatBE (l ++ [d]) = toNatBE l * 256 + d := by
  rw [toNatBE_eq, X509.toNatBE_append]
  show _ * 256 + (d * 1 + 0) = _
  rw [Nat.mul_one, Nat.add_zero]

theorem toNatBE_lt (c : Bytes) (hc : AllBytes c) : toNatBE c < 256 ^ c.length :=
  toNatBE_eq ▸ X509.toNatBE_lt c hc

theorem beOctets_spec : ∀ (fuel n : Nat), n < 256 ^ fuel →
    toNatBE (beOctets fuel n) = n ∧ (beOctets fuel n).length ≤ fuel ∧
      (n ≠ 0 → (beOctets fuel n).headD 0 ≠ 0) := by
  intro fuel
  induction fuel with
  | zero =>
    intro n h
    exact ⟨(Nat.lt_one_iff.1 h).symm, Nat.le_refl _, fun h0 => absurd (Nat.lt_one_iff.1 h) h0⟩
  | succ f ih =>
    intro n h
    rw [beOctets]
    split
    · rename_i h0
      exact ⟨h0.symm, Nat.zero_le _, fun h => absurd h0 h⟩
    · obtain ⟨i1, i2, i3⟩ := ih (n / 256) (Nat.div_lt_of_lt_mul (Nat.pow_succ' ▸ h))
      refine ⟨?_, ?_, fun _ => ?_⟩
      · rw [toNatBE_concat, i1]; exact Nat.div_add_mod' n 256
      · rw [List.length_append]; exact Nat.succ_le_succ i2
      · by_cases hq : n / 256 = 0
        · have : beOctets f 0 = [] := by cases f <;> rfl
          rw [hq, this]
          show n % 256 ≠ 0
          omega
        · have := i3 hq
          cases hb : beOctets f (n / 256) with
          | nil => rw [hb] at this; exact absurd rfl this
          | cons x xs => rw [hb] at this; exact this

theorem decodeU32_encodeU32 (n : Nat) (h : n < 2 ^ 32) : decodeU32 (encodeU32 n) = some n := by
  unfold encodeU32
  split
  · rename_i h0; rw [h0]; rfl
  · rename_i h0
    obtain ⟨h1, h2, h3⟩ := beOctets_spec 4 n h
    have h3 := h3 h0
    dsimp only
    generalize beOctets 4 n = o at h1 h2 h3
    cases o with
    | nil => exact absurd rfl h3
    | cons x xs =>
      have hx : x ≠ 0 := h3
      have hl := Nat.le_of_succ_le_succ h2
      show decodeU32 (if x ≥ 128 then 0 :: x :: xs else x :: xs) = some n
      -- a leading zero octet is skipped when the next one has the top bit set
      by_cases hge : x ≥ 128
      · have hlt : ¬ x < 128 := Nat.not_lt.2 hge
        simp [decodeU32, hge, hlt, h1, hl]
      · simp [decodeU32, hge, hx, h1, hl]

theorem decodeU32_lt (c : Bytes) (n : Nat) (hb : ∀ x ∈ c, x < 256) (h : decodeU32 c = some n) :
    n < 2 ^ 32 := by
  have key : ∀ v : Bytes, (∀ x ∈ v, x < 256) → ¬ v.length > 4 → toNatBE v < 2 ^ 32 := fun v hv hl =>
    Nat.lt_of_lt_of_le (toNatBE_lt v hv) (Nat.pow_le_pow_right (by decide) (Nat.le_of_not_lt hl) :
      256 ^ v.length ≤ 256 ^ 4)
  cases c with
  | nil => cases h
  | cons b0 rest =>
    unfold decodeU32 at h
    dsimp only at h
    have hv : ∀ x ∈ (if b0 = 0 then rest else b0 :: rest), x < 256 := by
      split
      · exact fun x hx => hb x (List.mem_cons_of_mem _ hx)
      · exact hb
    obtain ⟨-, h⟩ := ite_eq_right h nofun
    obtain ⟨-, h⟩ := ite_eq_right h nofun
    obtain ⟨hl, h⟩ := ite_eq_right h nofun
    exact Option.some.inj h ▸ key _ hv hl

theorem takeOptBlock_encode (b : Blk) (hb : b.lo ≤ b.hi ∧ b.hi < 2 ^ 32) (rest : Bytes) :
    takeOptBlock (encodeBlock b ++ rest) = .ok b rest := by
  have d1 := decodeU32_encodeU32 b.lo (Nat.lt_of_le_of_lt hb.1 hb.2)
  have d2 := decodeU32_encodeU32 b.hi hb.2
  unfold encodeBlock
  split
  · rename_i he
    have hr := (readTlv_reads tagInt (encodeU32 b.lo)).1 rest
    rw [tlv_append] at hr ⊢
    simp +decide only [takeOptBlock, if_false, hr, if_true, Bool.false_eq_true, d1]
    cases b
    exact congrArg (Take.ok · rest) (congrArg _ he)
  · have hr := (readTlv_reads tagSeq (tlv tagInt (encodeU32 b.lo) ++ tlv tagInt (encodeU32 b.hi))).1 rest
    rw [tlv_append] at hr ⊢
    simp +decide only [takeOptBlock, if_false, hr, if_true, Bool.not_true, Bool.false_eq_true,
      takePrim_reads tagInt (encodeU32 b.lo), takePrim_reads tagInt (encodeU32 b.hi), d1, d2, ne_eq, not_true_eq_false, Nat.not_lt.2 hb.1]

theorem takeOptBlock_nil : takeOptBlock [] = .absent := rfl

theorem blocksLoop_eq : blocksLoop = itemsLoop takeOptBlock := by
  funext fuel
  induction fuel with
  | zero => rfl
  | succ f ih => funext b; rw [blocksLoop, itemsLoop, ih]; cases takeOptBlock b <;> rfl

theorem length_le_encodeBlocks (c : List Blk) : c.length ≤ ((c.map encodeBlock).flatten).length := by
  refine length_le_flatten_map _ (fun b => ?_) c
  unfold encodeBlock
  split <;> exact tlv_ne_nil _ _

theorem blocksLoop_encode (c : List Blk) (fuel : Nat) (hf : c.length ≤ fuel)
    (hv : ∀ b ∈ c, b.lo ≤ b.hi ∧ b.hi < 2 ^ 32) :
    blocksLoop fuel ((c.map encodeBlock).flatten) = some c :=
  blocksLoop_eq ▸ itemsLoop_flatten _ _ takeOptBlock_nil c fuel hf fun b hb => takeOptBlock_encode b (hv b hb)

theorem decodeBlocks_encode (c : List Blk) (hc : Canon maxAs c) :
    decodeBlocks ((c.map encodeBlock).flatten) = some c := by
  unfold decodeBlocks
  rw [blocksLoop_encode c _ (length_le_encodeBlocks c) fun b hb =>
    ⟨(hc.1 b hb).1, Nat.lt_succ_of_le (hc.1 b hb).2⟩]
  exact congrArg some (Chain.fromIter_canon_id maxAs c hc)

theorem decodeExt_encodeExt_blocks (c : List Blk) (hc : Canon maxAs c) :
    decodeExt (encodeExt (.blocks c)) = some (.blocks c) := by
  have hr := (readTlv_reads tagSeq ((c.map encodeBlock).flatten)).2
  unfold encodeExt decodeExt
  simp only [takeCons_reads tagSeq _, takeCons_reads 0xA0 _]
  rw [tlv, List.cons_append] at hr ⊢
  simp +decide only [if_false, hr, ne_eq, not_true_eq_false, if_true, Bool.not_true, Bool.false_eq_true,
    decodeBlocks_encode c hc, Option.map_some]

theorem decodeExt_encodeExt_inherit : decodeExt (encodeExt .inherit) = some .inherit := by decide

theorem takeOptBlock_inv (b : Bytes) (blk : Blk) (rest : Bytes) (h : takeOptBlock b = .ok blk rest) :
    ∃ t c, readTlv b = some (t, c, rest) ∧
      ((∃ v, decodeU32 c = some v ∧ blk = ⟨v, v⟩) ∨
       (∃ c1 r1 c2 lo hi, takePrim tagInt c = some (c1, r1) ∧ takePrim tagInt r1 = some (c2, []) ∧
          decodeU32 c1 = some lo ∧ decodeU32 c2 = some hi ∧ lo ≤ hi ∧ blk = ⟨lo, hi⟩)) := by
  cases b with
  | nil => cases h
  | cons t r =>
    rw [takeOptBlock] at h
    obtain ⟨-, h⟩ := ite_eq_right h nofun
    split at h
    · cases h
    next t' c rest' hr =>
    refine ⟨t', c, ?_⟩
    rcases ite_eq_cases h with ⟨-, h⟩ | ⟨-, h⟩
    · obtain ⟨-, h⟩ := ite_eq_right h nofun
      split at h
      next v hd => cases h; exact ⟨hr, Or.inl ⟨v, hd, rfl⟩⟩
      · cases h
    · obtain ⟨-, h⟩ := ite_eq_left h nofun
      obtain ⟨-, h⟩ := ite_eq_right h nofun
      split at h
      · cases h
      next c1 r1 hp1 =>
      split at h
      · cases h
      next c2 r2 hp2 =>
      split at h
      next lo hi hd1 hd2 =>
        obtain ⟨hnil, h⟩ := ite_eq_right h nofun
        obtain ⟨hle, h⟩ := ite_eq_right h nofun
        cases h
        exact ⟨hr, Or.inr ⟨c1, r1, c2, lo, hi, hp1, not_not.1 hnil ▸ hp2, hd1, hd2, Nat.le_of_not_lt hle, rfl⟩⟩
      · cases h

theorem takeOptBlock_ok (b : Bytes) (hb : AllBytes b) (blk : Blk) (rest : Bytes)
    (h : takeOptBlock b = .ok blk rest) : (blk.lo ≤ blk.hi ∧ blk.hi ≤ maxAs) ∧ AllBytes rest := by
  obtain ⟨t, c, hr, hcase⟩ := takeOptBlock_inv b blk rest h
  obtain ⟨sc, sr⟩ := (readTlv_hands _ _ _ _ hr).sub
  have hc : AllBytes c := fun x hx => hb x (sc hx)
  refine ⟨?_, fun x hx => hb x (sr hx)⟩
  rcases hcase with ⟨v, hd, rfl⟩ | ⟨c1, r1, c2, lo, hi, hp1, hp2, _, hd2, hle, rfl⟩
  · exact ⟨Nat.le_refl _, Nat.le_of_lt_succ (decodeU32_lt c v hc hd)⟩
  · obtain ⟨_, s1r⟩ := takePrim_sub _ _ _ _ hp1
    obtain ⟨s2, _⟩ := takePrim_sub _ _ _ _ hp2
    exact ⟨hle, Nat.le_of_lt_succ (decodeU32_lt c2 hi (fun x hx => hc x (s1r x (s2 x hx))) hd2)⟩

theorem blocksLoop_sound (fuel : Nat) (b : Bytes) (bs : List Blk) (hb : ∀ x ∈ b, x < 256)
    (h : blocksLoop fuel b = some bs) : ∀ blk ∈ bs, blk.lo ≤ blk.hi ∧ blk.hi ≤ maxAs :=
  itemsLoop_sound (P := AllBytes) takeOptBlock_ok fuel b bs hb (blocksLoop_eq ▸ h)

theorem decodeBlocks_spec (content : Bytes) (hb : ∀ x ∈ content, x < 256) (c : List Blk)
    (h : decodeBlocks content = some c) :
    ∃ bs, blocksLoop content.length content = some bs ∧ Canon maxAs c ∧
      ∀ x, mem c x ↔ ∃ b ∈ bs, b.lo ≤ x ∧ x ≤ b.hi := by
  obtain ⟨bs, hl, rfl⟩ := Option.map_eq_some_iff.1 h
  exact ⟨bs, hl, fromIter_spec' maxAs bs (blocksLoop_sound _ _ _ hb hl)⟩

theorem decodeBlocks_canon (content : Bytes) (hb : ∀ x ∈ content, x < 256) (c : List Blk)
    (h : decodeBlocks content = some c) : Canon maxAs c :=
  (decodeBlocks_spec content hb c h).elim fun _ h => h.2.1

theorem decodeExt_sound (b : Bytes) (hb : ∀ x ∈ b, x < 256) (cl : Claim) (h : decodeExt b = some cl) :
    cl = .inherit ∨ ∃ c, cl = .blocks c ∧ Canon maxAs c := by
  unfold decodeExt at h
  split at h
  · cases h
  next c r0 h1 =>
  split at h
  · cases h
  next inner r h2 =>
  obtain ⟨s1, -⟩ := takeCons_sub _ _ _ _ h1
  obtain ⟨s2, -⟩ := takeCons_sub _ _ _ _ h2
  obtain ⟨-, h⟩ := ite_eq_right h nofun
  cases inner with
  | nil => cases h
  | cons t tl =>
    obtain ⟨-, h⟩ := ite_eq_right h nofun
    split at h
    · cases h
    next t' v r2 h3 =>
    obtain ⟨s3, -⟩ := (readTlv_hands _ _ _ _ h3).sub
    obtain ⟨-, h⟩ := ite_eq_right h nofun
    rcases ite_eq_cases h with ⟨-, h⟩ | ⟨-, h⟩
    · exact Or.inl (Option.some.inj (ite_eq_right h nofun).2).symm
    · obtain ⟨-, h⟩ := ite_eq_left h nofun
      obtain ⟨ch, h4, rfl⟩ := Option.map_eq_some_iff.1 (ite_eq_right h nofun).2
      exact Or.inr ⟨ch, rfl, decodeBlocks_canon v (fun x hx => hb x (s1 x (s2 x (s3 hx)))) ch h4⟩

/-- `missing` is written as an empty SEQUENCE OF and reads back as the empty block list -/
example : decodeExt (encodeExt .missing) = some (.blocks []) := by decide

example : encodeU32 0 = [0] ∧ encodeU32 127 = [127] ∧ encodeU32 128 = [0, 128] ∧
    encodeU32 65536 = [1, 0, 0] ∧ encodeU32 4294967295 = [0, 255, 255, 255, 255] := by decide

example : decodeU32 [0, 127] = none ∧ decodeU32 [1, 0, 0, 0, 0] = none ∧ decodeU32 [128] = none := by decide

example : encodeExt (.blocks [⟨0, 2⟩, ⟨4, 4⟩]) = [48, 15, 160, 13, 48, 11, 48, 6, 2, 1, 0, 2, 1, 2, 2, 1, 4] := by
  decide

example : decodeBlocks [2, 1, 7, 48, 6, 2, 1, 5, 2, 1, 8, 2, 1, 4] = some [⟨4, 8⟩] := by decide

end Rpki.AsDer
