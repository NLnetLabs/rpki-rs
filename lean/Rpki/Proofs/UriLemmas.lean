/-
Byte-list facts behind both URI types: `split` (core's `List.splitOn`) and the path check, trailing
slashes, `rfind`, the scheme prefix, the character table, case folding, and `==` as a relation on cut texts
(`EqAt`).
-/
import Rpki.Model.Uri
import Rpki.Proofs.ListLemmas
namespace Rpki.Uri
open Rpki.Consts

theorem split_slash_cons (cs : Bytes) : split (slash :: cs) = [] :: split cs := by
  rw [split, if_pos rfl]

theorem split_eq_splitOn (b : Bytes) : split b = b.splitOn slash := by
  induction b with
  | nil => rfl
  | cons c cs ih =>
    rw [split, List.splitOn_cons_eq_if_modifyHead, ih]
    by_cases hc : c = slash
    · rw [if_pos hc, if_pos (beq_iff_eq.2 hc)]
    · rw [if_neg hc, if_neg (mt beq_iff_eq.1 hc)]
      cases h : cs.splitOn slash with
      | nil => exact absurd h (List.splitOn_ne_nil slash cs)
      | cons x t => rfl

theorem split_ne_nil (b : Bytes) : split b ≠ [] :=
  split_eq_splitOn b ▸ List.splitOn_ne_nil slash b

theorem split_cons_ne {c : Nat} (hc : c ≠ slash) (cs : Bytes) :
    ∃ h t, split cs = h :: t ∧ split (c :: cs) = (c :: h) :: t := by
  cases hs : split cs with
  | nil => exact absurd hs (split_ne_nil cs)
  | cons h t => exact ⟨h, t, rfl, by rw [split, if_neg hc, hs]⟩

theorem split_noslash (b : Bytes) (h : slash ∉ b) : split b = [b] :=
  (split_eq_splitOn b).trans (List.splitOn_eq_singleton h)

theorem split_append (a b : Bytes) : split (a ++ slash :: b) = split a ++ split b := by
  rw [split_eq_splitOn, split_eq_splitOn, split_eq_splitOn]
  exact List.splitOn_append_cons_self a b

theorem split_first {a : Bytes} (h : slash ∉ a) (r : Bytes) : split (a ++ slash :: r) = a :: split r := by
  rw [split_append, split_noslash a h]; rfl

theorem split_snoc_slash (a : Bytes) : split (a ++ [slash]) = split a ++ [[]] :=
  split_append a []

theorem split_items_noslash (b : Bytes) : ∀ x ∈ split b, slash ∉ x := by
  induction b with
  | nil => exact List.forall_mem_singleton.2 List.not_mem_nil
  | cons c cs ih =>
    by_cases hc : c = slash
    · subst hc
      rw [split_slash_cons]
      exact List.forall_mem_cons.2 ⟨List.not_mem_nil, ih⟩
    · obtain ⟨h, t, hs, e⟩ := split_cons_ne hc cs
      rw [hs] at ih
      rw [e]
      have ⟨ih1, ih2⟩ := List.forall_mem_cons.1 ih
      exact List.forall_mem_cons.2 ⟨fun hm => (List.mem_cons.1 hm).elim (fun a => hc a.symm) ih1, ih2⟩

theorem split_cons_cons (b h : Bytes) (t : List Bytes) (e : split b = h :: t) (ht : t ≠ []) :
    ∃ r, b = h ++ slash :: r ∧ split r = t := by
  have hb : [slash].intercalate (split b) = b := split_eq_splitOn b ▸ List.intercalate_splitOn slash
  have hn := split_items_noslash b
  rw [e] at hb hn
  obtain ⟨x, y, rfl⟩ := List.exists_cons_of_ne_nil ht
  refine ⟨[slash].intercalate (x :: y), ?_, ?_⟩
  · rw [← hb, List.intercalate_cons_cons, List.append_assoc]; rfl
  · rw [split_eq_splitOn]
    exact List.splitOn_intercalate slash (fun l hl => hn l (List.mem_cons_of_mem _ hl)) ht

theorem split_snoc_ne (a : Bytes) (c : Nat) (hc : c ≠ slash) :
    ∃ init last, split (a ++ [c]) = init ++ [last] ∧ last ≠ [] := by
  induction a with
  | nil => exact ⟨[], [c], split_noslash [c] (fun h => hc (List.mem_singleton.1 h).symm), List.cons_ne_nil _ _⟩
  | cons d ds ih =>
    obtain ⟨init, last, h1, h2⟩ := ih
    by_cases hd : d = slash
    · subst hd
      exact ⟨[] :: init, last, by rw [List.cons_append, split_slash_cons, h1]; rfl, h2⟩
    · obtain ⟨h, t, hs, e⟩ := split_cons_ne hd (ds ++ [c])
      rw [List.cons_append, e]
      rw [h1] at hs
      cases init with
      | nil => obtain ⟨rfl, rfl⟩ := List.cons.inj hs; exact ⟨[], d :: last, rfl, List.cons_ne_nil _ _⟩
      | cons i0 it => obtain ⟨rfl, rfl⟩ := List.cons.inj hs; exact ⟨(d :: i0) :: it, last, rfl, h2⟩

def goodSeg (s : Bytes) : Prop := s ≠ [] ∧ s ≠ [dot, dot] ∧ s ≠ [dot]

instance (s : Bytes) : Decidable (goodSeg s) := by unfold goodSeg; infer_instance

theorem checkItems_cons_good {s : Bytes} (rest : List Bytes) (h : goodSeg s) :
    checkItems (s :: rest) = checkItems rest := by
  rw [checkItems, if_neg h.1, if_neg (fun e => e.elim h.2.1 h.2.2)]

theorem checkItems_cons_ok_iff (s : Bytes) (rest : List Bytes) :
    checkItems (s :: rest) = .ok () ↔ (s = [] ∧ rest = []) ∨ (goodSeg s ∧ checkItems rest = .ok ()) := by
  rw [checkItems]
  by_cases he : s = []
  · rw [if_pos he]
    by_cases hr : rest = []
    · rw [if_pos hr]; exact ⟨fun _ => Or.inl ⟨he, hr⟩, fun _ => rfl⟩
    · rw [if_neg hr]; exact ⟨nofun, fun h => h.elim (absurd ·.2 hr) (absurd he ·.1.1)⟩
  · rw [if_neg he]
    by_cases hd : s = [dot, dot] ∨ s = [dot]
    · rw [if_pos hd]
      exact ⟨nofun, fun h => h.elim (absurd ·.1 he) fun g => (hd.elim g.1.2.1 g.1.2.2).elim⟩
    · rw [if_neg hd]
      exact ⟨fun h => Or.inr ⟨⟨he, fun e => hd (Or.inl e), fun e => hd (Or.inr e)⟩, h⟩,
        fun h => h.elim (absurd ·.1 he) (·.2)⟩

theorem checkItems_singleton (s : Bytes) : checkItems [s] = .ok () ↔ s = [] ∨ goodSeg s :=
  (checkItems_cons_ok_iff s []).trans (or_congr (and_iff_left rfl) (and_iff_left rfl))

theorem checkItems_cons_ok {s : Bytes} {rest : List Bytes} (hr : rest ≠ [])
    (h : checkItems (s :: rest) = .ok ()) : goodSeg s ∧ checkItems rest = .ok () :=
  ((checkItems_cons_ok_iff s rest).1 h).resolve_left fun e => hr e.2

theorem checkItems_append (a : List Bytes) {b : List Bytes} (hb : b ≠ []) :
    checkItems (a ++ b) = .ok () ↔ (∀ s ∈ a, goodSeg s) ∧ checkItems b = .ok () := by
  induction a with
  | nil => exact ⟨fun h => ⟨nofun, h⟩, (·.2)⟩
  | cons x xs ih =>
    rw [List.cons_append, checkItems_cons_ok_iff, List.forall_mem_cons, ih, and_assoc]
    exact or_iff_right fun e => hb (List.append_eq_nil_iff.1 e.2).2

theorem checkPath_segment {n : Bytes} (hs : slash ∉ n) (hg : goodSeg n) : checkPath n = .ok () := by
  rw [checkPath, split_noslash n hs]
  exact (checkItems_singleton n).2 (Or.inr hg)

theorem checkItems_ok_iff (l : List Bytes) (hl : l ≠ []) :
    checkItems l = .ok () ↔
      (∀ s ∈ l.dropLast, goodSeg s) ∧ (∀ s, l.getLast? = some s → s = [] ∨ goodSeg s) := by
  rcases List.eq_nil_or_concat l with rfl | ⟨i, x, rfl⟩
  · exact absurd rfl hl
  rw [List.concat_eq_append, List.dropLast_concat, List.getLast?_concat,
    checkItems_append _ (List.cons_ne_nil _ _), checkItems_singleton]
  exact and_congr_right fun _ => ⟨fun h s e => Option.some.inj e ▸ h, fun h => h x rfl⟩

theorem endsWithSlash_append_of_ne {a b : Bytes} (hb : b ≠ []) : endsWithSlash (a ++ b) = endsWithSlash b := by
  unfold endsWithSlash
  rw [List.getLast?_append]
  cases h : b.getLast? with
  | none => exact absurd (List.getLast?_eq_none_iff.1 h) hb
  | some x => rfl

theorem endsWithSlash_snoc (q : Bytes) (c : Nat) : endsWithSlash (q ++ [c]) = decide (c = slash) := by
  unfold endsWithSlash
  rw [List.getLast?_concat]
  exact decide_eq_decide.2 ⟨fun e => Option.some.inj e, fun e => congrArg some e⟩

-- the `if path.ends_with('/') { &path[..path.len() - 1] }` of `parent` and `relative_to`
def stripSlash (p : Bytes) : Bytes := if endsWithSlash p then p.take (p.length - 1) else p

/-- a path as a directory prefix: what `join` leaves in front of the appended path, and what
`relative_to` takes off when its result is not empty -/
def dirPath (p : Bytes) : Bytes := if p = [] then [] else stripSlash p ++ [slash]

theorem stripSlash_nil : stripSlash [] = [] := rfl

theorem stripSlash_of_not {p : Bytes} (h : endsWithSlash p = false) : stripSlash p = p := by
  rw [stripSlash, h]; rfl

theorem stripSlash_snoc (q : Bytes) : stripSlash (q ++ [slash]) = q := by
  rw [stripSlash, endsWithSlash_snoc, if_pos (decide_eq_true rfl), List.length_append]
  exact List.take_left

theorem stripSlash_cases (p : Bytes) :
    (endsWithSlash p = false ∧ stripSlash p = p) ∨ (endsWithSlash p = true ∧ p = stripSlash p ++ [slash]) := by
  rcases List.eq_nil_or_concat p with rfl | ⟨q, c, rfl⟩
  · exact Or.inl ⟨rfl, rfl⟩
  · rw [List.concat_eq_append]
    by_cases hc : c = slash
    · subst hc
      exact Or.inr ⟨(endsWithSlash_snoc q slash).trans (decide_eq_true rfl), by rw [stripSlash_snoc]⟩
    · have : endsWithSlash (q ++ [c]) = false := (endsWithSlash_snoc q c).trans (decide_eq_false hc)
      exact Or.inl ⟨this, stripSlash_of_not this⟩

theorem stripSlash_append {a p : Bytes} (hp : p ≠ []) : stripSlash (a ++ p) = a ++ stripSlash p := by
  rcases stripSlash_cases p with ⟨h1, h2⟩ | ⟨_, h2⟩
  · rw [h2, stripSlash_of_not ((endsWithSlash_append_of_ne hp).trans h1)]
  · rw [h2, ← List.append_assoc, stripSlash_snoc, ← h2]

theorem dirPath_append {a p : Bytes} (hp : p ≠ []) : dirPath (a ++ p) = a ++ dirPath p := by
  rw [dirPath, dirPath, if_neg hp, if_neg (fun e => hp (List.append_eq_nil_iff.1 e).2),
    stripSlash_append hp, List.append_assoc]

theorem dirPath_eq (p : Bytes) :
    dirPath p = if endsWithSlash p = true ∨ p = [] then p else p ++ [slash] := by
  rw [dirPath]
  by_cases hp : p = []
  · rw [if_pos hp, if_pos (Or.inr hp), hp]
  · rw [if_neg hp]
    rcases stripSlash_cases p with ⟨h1, h2⟩ | ⟨h1, h2⟩
    · rw [h2, if_neg (fun e => e.elim (fun e => nomatch h1.symm.trans e) hp)]
    · rw [if_pos (Or.inl h1)]; exact h2.symm

theorem dirPath_of_dir {q : Bytes} (h : q = [] ∨ ∃ q', q = q' ++ [slash]) : dirPath q = q := by
  rcases h with rfl | ⟨q', rfl⟩
  · rfl
  · rw [dirPath, if_neg (List.append_ne_nil_of_right_ne_nil _ (List.cons_ne_nil _ _)), stripSlash_snoc]

theorem checkItems_stripSlash {p : Bytes} (hp : p ≠ []) (h : checkItems (split p) = .ok ()) :
    ∀ s ∈ split (stripSlash p), goodSeg s := by
  rcases stripSlash_cases p with ⟨h1, h2⟩ | ⟨_, h2⟩
  · rw [h2]
    rcases List.eq_nil_or_concat p with rfl | ⟨q, c, rfl⟩
    · exact absurd rfl hp
    · rw [List.concat_eq_append] at h h1 ⊢
      rw [endsWithSlash_snoc] at h1
      obtain ⟨init, last, e, hl⟩ := split_snoc_ne q c (of_decide_eq_false h1)
      rw [e] at h ⊢
      have ⟨hg, h1⟩ := (checkItems_append _ (List.cons_ne_nil _ _)).1 h
      intro s hs
      rcases List.mem_append.1 hs with e | e
      · exact hg s e
      · cases List.mem_singleton.1 e
        exact ((checkItems_singleton _).1 h1).resolve_left hl
  · rw [h2, split_snoc_slash] at h
    exact ((checkItems_append _ (List.cons_ne_nil _ _)).1 h).1

theorem stripSlash_checked (p : Bytes) (h : checkItems (split p) = .ok ()) :
    endsWithSlash (stripSlash p) = false ∧ (stripSlash p = [] → p = []) := by
  by_cases hp : p = []
  · subst hp; exact ⟨rfl, fun _ => rfl⟩
  have hg := checkItems_stripSlash hp h
  constructor
  · rcases stripSlash_cases (stripSlash p) with ⟨h1, _⟩ | ⟨_, h2⟩
    · exact h1
    · refine absurd rfl (hg [] ?_).1
      rw [h2, split_snoc_slash]; exact List.mem_append_right _ List.mem_cons_self
  · intro e
    exact absurd rfl (hg [] (by rw [e]; exact List.mem_cons_self)).1

theorem checkItems_dirPath_append {a : Bytes} (ha : checkItems (split a) = .ok ()) (p : Bytes) :
    checkItems (split (dirPath a ++ p)) = .ok () ↔ checkItems (split p) = .ok () := by
  rw [dirPath]
  by_cases he : a = []
  · rw [if_pos he]; rfl
  · rw [if_neg he, List.append_assoc, List.singleton_append, split_append, checkItems_append _ (split_ne_nil p)]
    exact and_iff_right (checkItems_stripSlash he ha)

theorem checkItems_cut {p q r : Bytes} (e : p = (q ++ [slash]) ++ r) (h : checkItems (split p) = .ok ()) :
    checkItems (split (q ++ [slash])) = .ok () := by
  rw [e, List.append_assoc, List.singleton_append, split_append] at h
  rw [split_snoc_slash]
  exact (checkItems_append _ (List.cons_ne_nil _ _)).2 ⟨((checkItems_append _ (split_ne_nil r)).1 h).1, rfl⟩

theorem rfindAux_spec (b : Bytes) : ∀ (i : Nat) (acc : Option Nat) (k : Nat),
    rfindAux b i acc = some k → acc = some k ∨ ∃ j, k = i + j ∧ b[j]? = some slash := by
  induction b with
  | nil => intro i acc k h; exact Or.inl h
  | cons c cs ih =>
    intro i acc k h
    rw [rfindAux] at h
    rcases ih _ _ _ h with e | ⟨j, rfl, e2⟩
    · by_cases hc : c = slash
      · rw [if_pos hc] at e
        cases e
        exact Or.inr ⟨0, rfl, by rw [hc]; rfl⟩
      · rw [if_neg hc] at e; exact Or.inl e
    · exact Or.inr ⟨j + 1, Nat.add_right_comm i 1 j, e2⟩

theorem rfindSlash_spec (b : Bytes) (k : Nat) (h : rfindSlash b = some k) : b[k]? = some slash := by
  rcases rfindAux_spec b 0 none k h with e | ⟨j, rfl, e⟩
  · cases e
  · rwa [Nat.zero_add]

theorem rfindAux_none (b : Bytes) : ∀ (i : Nat) (acc : Option Nat),
    rfindAux b i acc = none → acc = none ∧ slash ∉ b := by
  induction b with
  | nil => intro i acc h; exact ⟨h, List.not_mem_nil⟩
  | cons c cs ih =>
    intro i acc h
    rw [rfindAux] at h
    have ⟨h1, h2⟩ := ih _ _ h
    by_cases hc : c = slash
    · rw [if_pos hc] at h1; cases h1
    · rw [if_neg hc] at h1
      exact ⟨h1, fun hm => (List.mem_cons.1 hm).elim (fun e => hc e.symm) h2⟩

theorem rfindSlash_stripSlash {p : Bytes} {idx : Nat} (hc : checkItems (split p) = .ok ())
    (hr : rfindSlash (stripSlash p) = some idx) :
    ∃ q r, p = (q ++ [slash]) ++ r ∧ q.length = idx ∧ r ≠ [] := by
  have ⟨hidx, hq⟩ := Lists.eq_take_cons_drop (rfindSlash_spec _ idx hr)
  obtain ⟨t, ht⟩ : ∃ t, p = stripSlash p ++ t := by
    rcases stripSlash_cases p with ⟨_, h2⟩ | ⟨_, h2⟩
    · exact ⟨[], by rw [h2, List.append_nil]⟩
    · exact ⟨[slash], h2⟩
  refine ⟨(stripSlash p).take idx, (stripSlash p).drop (idx + 1) ++ t, ?_,
    List.length_take_of_le (Nat.le_of_lt hidx), fun e => ?_⟩
  · conv => lhs; rw [ht, hq]
    simp only [List.append_assoc, List.cons_append, List.nil_append]
  · have hns := (stripSlash_checked _ hc).1
    rw [hq, (List.append_eq_nil_iff.1 e).1, endsWithSlash_snoc] at hns
    exact absurd hns (by decide)

theorem startsWithIgnoreCase_iff {s e : Bytes} :
    startsWithIgnoreCase s e = true ↔ e.length ≤ s.length ∧ eqIgnoreCase (s.take e.length) e = true := by
  rw [startsWithIgnoreCase]
  split
  · exact ⟨(fun h => nomatch h), fun h => absurd h.1 (Nat.not_le.2 ‹_›)⟩
  · exact ⟨fun h => ⟨Nat.not_lt.1 ‹_›, h⟩, fun h => h.2⟩

theorem startsWithIgnoreCase_append {s e : Bytes} (t : Bytes) (h : startsWithIgnoreCase s e = true) :
    startsWithIgnoreCase (s ++ t) e = true := by
  have ⟨hl, he⟩ := startsWithIgnoreCase_iff.1 h
  exact startsWithIgnoreCase_iff.2 ⟨Nat.le_trans hl (List.length_append ▸ Nat.le_add_right _ _),
    by rw [List.take_append_of_le_length hl]; exact he⟩

theorem startsWithIgnoreCase_take {s e : Bytes} (n : Nat) (hn : e.length ≤ n) (h : startsWithIgnoreCase s e = true) :
    startsWithIgnoreCase (s.take n) e = true := by
  have ⟨hl, he⟩ := startsWithIgnoreCase_iff.1 h
  exact startsWithIgnoreCase_iff.2 ⟨by rw [List.length_take]; exact Nat.le_min.2 ⟨hn, hl⟩,
    by rw [List.take_take, Nat.min_eq_left hn]; exact he⟩

theorem checkUriAscii_append (a b : Bytes) :
    checkUriAscii (a ++ b) = (checkUriAscii a && checkUriAscii b) :=
  List.all_append

-- the ranges are those read from `is_u8_uri_ascii` in the source (`uriAsciiRanges`)
theorem isUriAscii_iff (c : Nat) : isUriAscii c = true ↔
    c = 33 ∨ (36 ≤ c ∧ c ≤ 59) ∨ c = 61 ∨ (65 ≤ c ∧ c ≤ 90) ∨ c = 95 ∨ (97 ≤ c ∧ c ≤ 122) ∨
      c = 126 := by
  simp only [isUriAscii, uriAsciiRanges, inRanges, Bool.or_eq_true,
    Bool.and_eq_true, decide_eq_true_eq, Bool.or_false, Nat.le_antisymm_iff, and_comm]

theorem checkUriAscii_slash_cons (x : Bytes) : checkUriAscii (slash :: x) = checkUriAscii x := by
  rw [checkUriAscii, List.all_cons, show isUriAscii slash = true by decide, Bool.true_and]
  rfl

theorem checkUriAscii_dirPath (p : Bytes) : checkUriAscii (dirPath p) = checkUriAscii p := by
  rw [dirPath_eq]
  split
  · rfl
  · rw [checkUriAscii_append]; exact Bool.and_true _

theorem toLower_eq_iff {c d : Nat} (hd : d < 65) : toLower c = d ↔ c = d := by
  unfold toLower; split <;> omega

theorem toLower_idem (c : Nat) : toLower (toLower c) = toLower c := by
  unfold toLower; split <;> (try split) <;> omega

theorem toLower_not_upper (c : Nat) : ¬ (65 ≤ toLower c ∧ toLower c ≤ 90) := by
  unfold toLower; split <;> omega

theorem map_toLower_idem (a : Bytes) : (a.map toLower).map toLower = a.map toLower := by
  rw [List.map_map]
  exact List.map_congr_left fun c _ => toLower_idem c

theorem any_upper_map_toLower (a : Bytes) :
    (a.map toLower).any (fun c => 65 ≤ c ∧ c ≤ 90) = false := by
  rw [List.any_eq_false]
  intro x hx
  obtain ⟨c, _, rfl⟩ := List.mem_map.1 hx
  exact fun h => toLower_not_upper c (of_decide_eq_true h)

theorem map_toLower_of_no_upper (a : Bytes)
    (h : a.any (fun c => 65 ≤ c ∧ c ≤ 90) = false) : a.map toLower = a := by
  rw [List.any_eq_false] at h
  conv => rhs; rw [← List.map_id a]
  exact List.map_congr_left fun c hc => if_neg (fun hu => h c hc (decide_eq_true hu))

theorem isUriAscii_toLower (c : Nat) (h : isUriAscii c = true) : isUriAscii (toLower c) = true := by
  rw [isUriAscii_iff] at h ⊢
  unfold toLower
  split <;> omega

theorem checkUriAscii_map_toLower (a : Bytes) (h : checkUriAscii a = true) :
    checkUriAscii (a.map toLower) = true := by
  rw [checkUriAscii, List.all_eq_true] at *
  intro x hx
  obtain ⟨c, hc, rfl⟩ := List.mem_map.1 hx
  exact isUriAscii_toLower c (h c hc)

theorem goodSeg_map_toLower {a : Bytes} (h : goodSeg a) : goodSeg (a.map toLower) := by
  obtain ⟨h1, h2, h3⟩ := h
  refine ⟨fun e => h1 (List.map_eq_nil_iff.1 e), fun e => ?_, fun e => ?_⟩
  · rcases a with _ | ⟨x, _ | ⟨y, _ | ⟨z, t⟩⟩⟩ <;>
      simp only [List.map_cons, List.map_nil, List.cons.injEq, and_true, reduceCtorEq,
        and_false] at e
    exact h2 (by rw [(toLower_eq_iff (by decide)).1 e.1, (toLower_eq_iff (by decide)).1 e.2])
  · rcases a with _ | ⟨x, _ | ⟨y, t⟩⟩ <;>
      simp only [List.map_cons, List.map_nil, List.cons.injEq, and_true, reduceCtorEq,
        and_false] at e
    exact h3 (by rw [(toLower_eq_iff (by decide)).1 e])

theorem rsyncScheme_lower : rsyncScheme.map toLower = rsyncScheme := by decide

theorem eqIgnoreCase_iff (a b : Bytes) : eqIgnoreCase a b = true ↔ a.map toLower = b.map toLower :=
  beq_iff_eq

theorem slash_not_mem_map_toLower {a : Bytes} (h : slash ∉ a) : slash ∉ a.map toLower := by
  intro hm
  obtain ⟨c, hc, e⟩ := List.mem_map.1 hm
  exact h ((toLower_eq_iff (by decide)).1 e ▸ hc)

theorem first_slash_unique (a a' r r' : Bytes) (h1 : slash ∉ a) (h2 : slash ∉ a')
    (h : a ++ slash :: r = a' ++ slash :: r') : a = a' ∧ r = r' := by
  have := congrArg split h
  rw [split_first h1, split_first h2] at this
  obtain rfl := (List.cons.inj this).1
  exact ⟨rfl, List.tail_eq_of_cons_eq (List.append_cancel_left h)⟩

theorem lower_first_slash (a a' r r' : Bytes) (h1 : slash ∉ a) (h2 : slash ∉ a')
    (h : (a ++ slash :: r).map toLower = (a' ++ slash :: r').map toLower) : a.length = a'.length := by
  rw [List.map_append, List.map_append] at h
  have := (first_slash_unique _ _ _ _ (slash_not_mem_map_toLower h1) (slash_not_mem_map_toLower h2) h).1
  rw [← List.length_map (f := toLower), this, List.length_map]

/-- Two texts cut at `n` and `n'`: the heads equal up to case, the tails equal. This is `==` of both URI
types, cut after the authority. -/
def EqAt (b : Bytes) (n : Nat) (b' : Bytes) (n' : Nat) : Prop :=
  n = n' ∧ (b.take n).map toLower = (b'.take n').map toLower ∧ b.drop n = b'.drop n'

theorem EqAt.refl (b : Bytes) (n : Nat) : EqAt b n b n := ⟨rfl, rfl, rfl⟩

theorem EqAt.symm {b b' : Bytes} {n n' : Nat} (h : EqAt b n b' n') : EqAt b' n' b n :=
  ⟨h.1.symm, h.2.1.symm, h.2.2.symm⟩

theorem EqAt.trans {b b' b'' : Bytes} {n n' n'' : Nat} (h : EqAt b n b' n') (h' : EqAt b' n' b'' n'') :
    EqAt b n b'' n'' :=
  ⟨h.1.trans h'.1, h.2.1.trans h'.2.1, h.2.2.trans h'.2.2⟩

end Rpki.Uri
