/-
  The address text forms read back.  First IPv4: the octet reader and `parseV4 (fmtV4 a) = some a` for every 32-bit
  address (here because the IPv4-mapped IPv6 form ends in an IPv4 address); then the IPv6 groups, the zero run
  `fmtV6` cuts out, and `parseV6 (fmtV6 a) = some a` for every 128-bit address.  No Mathlib in the imports.
-/
import Rpki.Proofs.Digits
import Rpki.Proofs.ListLemmas
import Rpki.Proofs.Positional
namespace Rpki.ResText
open Rpki.Arith

theorem parseOctet_decimal (n : Nat) (h : n < 256) : parseOctet (decimal n) = some n := by
  have hlen : (decimal n).length ≤ 3 := decimal_length 2 n (Nat.lt_trans h (by decide))
  have h1 : ¬ (decimal n = [] ∨ (decimal n).length > 3 ∨ (!(decimal n).all isDigit) = true) := by
    rw [decimal_all_isDigit]
    rintro (h' | h' | h')
    · exact (decimal_digits n).1 h'
    · omega
    · cases h'
  unfold parseOctet
  rw [if_neg h1, if_neg (decimal_no_leading_zero n), decimal_value]
  exact if_pos (by omega)

theorem parseOctet_colon (p : Bytes) (h : 58 ∈ p) : parseOctet p = none := by
  unfold parseOctet
  have hall : p.all isDigit = false := by
    cases hq : p.all isDigit with
    | false => rfl
    | true =>
      have := List.all_eq_true.mp hq 58 h
      simp [isDigit] at this
  simp [hall]

theorem parseOctet_le (b : Bytes) (v : Nat) (h : parseOctet b = some v) : v ≤ 255 := by
  simp only [parseOctet, Option.ite_none_left_eq_some, Option.ite_none_right_eq_some, Option.some.injEq] at h
  obtain ⟨_, _, h1, rfl⟩ := h
  exact h1

theorem fmtV4_eq (a : Nat) : fmtV4 a =
    decimal (a / 2 ^ 24 % 256) ++ 46 :: (decimal (a / 2 ^ 16 % 256) ++ 46 ::
      (decimal (a / 2 ^ 8 % 256) ++ 46 :: decimal (a % 256))) := by
  unfold fmtV4
  simp only [List.append_assoc]
  rfl

theorem parseV4_fmtV4 (a : Nat) (h : a < 2 ^ 32) : parseV4 (fmtV4 a) = some a := by
  have hm : ∀ x ∈ [a / 2 ^ 24 % 256, a / 2 ^ 16 % 256, a / 2 ^ 8 % 256, a % 256],
      parseOctet (decimal x) = some x := fun x hx => by
    refine parseOctet_decimal x ?_
    simp only [List.mem_cons, List.not_mem_nil, or_false] at hx
    rcases hx with rfl | rfl | rfl | rfl <;> exact Nat.mod_lt _ (by decide)
  unfold parseV4
  rw [fmtV4_eq, splitOn_sep 46 _ _ (decimal_ne _ 46 (by decide)),
    splitOn_sep 46 _ _ (decimal_ne _ 46 (by decide)), splitOn_sep 46 _ _ (decimal_ne _ 46 (by decide)),
    splitOn_last 46 _ (decimal_ne _ 46 (by decide))]
  rw [show ∀ w x y z : Nat, [decimal w, decimal x, decimal y, decimal z] = [w, x, y, z].map decimal from
    fun _ _ _ _ => rfl, Lists.mapM_map_some parseOctet decimal _ hm]
  exact congrArg some (Arith.digits4_sum (b := 256) h)

theorem fmtV4_chars (a : Nat) : fmtV4 a ≠ [] ∧ ∀ c ∈ fmtV4 a, 46 ≤ c ∧ c ≠ 47 ∧ c ≤ 57 := by
  have hd : ∀ n, ∀ c ∈ decimal n, 46 ≤ c ∧ c ≠ 47 ∧ c ≤ 57 := fun n c hc => by
    have := (decimal_digits n).2 c hc
    omega
  unfold fmtV4
  refine ⟨List.append_ne_nil_of_left_ne_nil (List.append_ne_nil_of_right_ne_nil _ (List.cons_ne_nil _ _)) _, ?_⟩
  simp only [List.forall_mem_append, List.forall_mem_singleton]
  exact ⟨⟨⟨⟨⟨⟨hd _, by decide⟩, hd _⟩, by decide⟩, hd _⟩, by decide⟩, hd _⟩

theorem fmtV4_has46 (v : Nat) : 46 ∈ fmtV4 v :=
  List.mem_append_left _ (List.mem_append_right _ (List.mem_singleton.2 rfl))

theorem groups_length (a : Nat) : (groups a).length = 8 := rfl

/-- `groups` writes the eight base-65536 digits of an address, `groupsToNat` is their value -/
theorem groups_eq (a : Nat) : groups a = digitsBE 65536 8 a :=
  List.map_congr_left fun i _ => by rw [Nat.pow_mul]

theorem groups_lt (a : Nat) : ∀ g ∈ groups a, g < 65536 := groups_eq a ▸ digitsBE_lt (by decide) 8 a

theorem groupsToNat_append (xs ys : List Nat) :
    groupsToNat (xs ++ ys) = groupsToNat xs * 65536 ^ ys.length + groupsToNat ys :=
  ofDigits_append 65536 xs ys

theorem groupsToNat_groups (a : Nat) (h : a < 2 ^ 128) : groupsToNat (groups a) = a := by
  rw [groups_eq]
  exact ofDigits_digitsBE_lt h

theorem parseGroup_hexLower (g : Nat) (h : g < 65536) : parseGroup (hexLower g) = some g := by
  obtain ⟨ds, e, hne, hlt, hv, _, hl⟩ := hexLower_spec g
  have hlen : ds.length ≤ 4 := hl 3 h
  unfold parseGroup
  rw [e, if_neg, Lists.mapM_map_some hexVal hexDigit ds fun d hd => hexVal_hexDigit d (hlt d hd), Option.map_some, hv]
  rw [List.map_eq_nil_iff, List.length_map]
  rintro (e | e)
  · exact hne e
  · omega

theorem parseGroup_lt (b : Bytes) (v : Nat) (h : parseGroup b = some v) : v < 65536 := by
  unfold parseGroup at h
  split at h
  · cases h
  · next hlen =>
    obtain ⟨ds, hm, rfl⟩ := Option.map_eq_some_iff.1 h
    obtain ⟨hl, hall⟩ := Lists.mapM_some hexVal b ds hm
    have h1 : ofDigits 16 ds < 16 ^ ds.length := ofDigits_lt fun d hd => by
      obtain ⟨c, hc⟩ := hall d hd
      exact hexVal_lt c d hc
    have h2 : 16 ^ ds.length ≤ 16 ^ 4 := Nat.pow_le_pow_right (by decide) (by omega)
    exact Nat.lt_of_lt_of_le h1 h2

theorem joinColon_cons2 (g g' : Nat) (rest : List Nat) :
    joinColon (g :: g' :: rest) = hexLower g ++ 58 :: joinColon (g' :: rest) :=
  List.append_assoc _ [58] _

theorem joinColon_head : ∀ gs : List Nat, gs ≠ [] → ∃ c r, joinColon gs = c :: r ∧ c ≠ 58
  | [], h => absurd rfl h
  | g :: rest, _ => by
    cases hx : hexLower g with
    | nil => exact absurd hx (hexLower_chars g).1
    | cons c r =>
      have hc : c ≠ 58 := hexLower_no58 g c (by rw [hx]; exact List.mem_cons_self)
      cases rest with
      | nil => exact ⟨c, r, hx, hc⟩
      | cons g' rest => exact ⟨c, _, by rw [joinColon_cons2, hx]; rfl, hc⟩

theorem splitOn_joinColon : ∀ gs : List Nat, gs ≠ [] → splitOn 58 (joinColon gs) [] = gs.map hexLower := by
  intro gs
  induction gs with
  | nil => intro h; exact absurd rfl h
  | cons g rest ih =>
    intro _
    cases rest with
    | nil => exact splitOn_last 58 _ (hexLower_no58 g)
    | cons g' rest =>
      rw [joinColon_cons2, splitOn_sep 58 _ _ (hexLower_no58 g), ih (List.cons_ne_nil _ _)]
      rfl

theorem parseGroups_joinColon (gs : List Nat) (v : Bool) (hlt : ∀ g ∈ gs, g < 65536) :
    parseGroups (joinColon gs) v = some gs := by
  rcases List.eq_nil_or_concat gs with rfl | ⟨init, l, rfl⟩
  · rfl
  · rw [List.concat_eq_append] at hlt ⊢
    have hgs : init ++ [l] ≠ [] := List.append_ne_nil_of_right_ne_nil _ (List.cons_ne_nil _ _)
    have hne : joinColon (init ++ [l]) ≠ [] := by
      obtain ⟨c, r, e, _⟩ := joinColon_head _ hgs
      rw [e]
      exact List.cons_ne_nil _ _
    have h46 : (hexLower l).contains 46 = false := by
      rw [Bool.eq_false_iff]
      intro hc
      have := (hexLower_chars l).2 46 (List.mem_of_elem_eq_true hc)
      omega
    unfold parseGroups
    rw [if_neg hne, splitOn_joinColon _ hgs]
    simp only [List.map_append, List.map_cons, List.map_nil, List.dropLast_concat, List.getLast?_concat,
      Lists.mapM_map_some parseGroup hexLower init fun g hg =>
        parseGroup_hexLower g (hlt g (List.mem_append_left _ hg)),
      h46, parseGroup_hexLower l (hlt l (List.mem_append_right _ List.mem_cons_self)), Option.map_some]
    rfl

/-- `findDouble`'s patterns overlap: its second equation asks that the first pattern does not match -/
theorem findDouble_cons_ne (c : Nat) (s : Bytes) (i : Nat) (hc : c ≠ 58) :
    findDouble (c :: s) i = findDouble s (i + 1) :=
  findDouble.eq_2 i c s fun _ e _ => hc e

theorem findDouble_58_ne (c : Nat) (s : Bytes) (i : Nat) (hc : c ≠ 58) :
    findDouble (58 :: c :: s) i = findDouble (c :: s) (i + 1) :=
  findDouble.eq_2 i 58 (c :: s) fun _ _ e => hc (List.cons.inj e).1

theorem findDouble_skip : ∀ (h t : Bytes) (i : Nat), (∀ c ∈ h, c ≠ 58) →
    findDouble (h ++ t) i = findDouble t (i + h.length) := by
  intro h
  induction h with
  | nil => intro t i _; rfl
  | cons c h ih =>
    intro t i hc
    rw [List.cons_append, findDouble_cons_ne _ _ _ (hc c List.mem_cons_self),
      ih t (i + 1) fun x hx => hc x (List.mem_cons_of_mem _ hx), List.length_cons, Nat.add_assoc, Nat.add_comm 1]

theorem findDouble_joinColon : ∀ (gs : List Nat) (t : Bytes) (i : Nat),
    findDouble (joinColon gs ++ t) i = findDouble t (i + (joinColon gs).length) := by
  intro gs
  induction gs with
  | nil => intro t i; rfl
  | cons g rest ih =>
    intro t i
    cases rest with
    | nil => exact findDouble_skip _ t i (hexLower_no58 g)
    | cons g' rest =>
      obtain ⟨c, r, e, hc⟩ := joinColon_head (g' :: rest) (List.cons_ne_nil _ _)
      rw [joinColon_cons2, List.append_assoc, findDouble_skip _ _ _ (hexLower_no58 g), List.cons_append, e,
        List.cons_append, findDouble_58_ne _ _ _ hc, ← List.cons_append, ← e, ih, List.length_append,
        List.length_cons]
      congr 1
      omega

/-- Scanning `G = pre ++ gs` with `gs` still to come: `pre` ends in the current run of `cl` zeros, which starts
where `p1` ends, and the best run so far is a run of `ll` zeros after `x`.  Then so is the run returned. -/
theorem longestZeros_split (G : List Nat) (gs : List Nat) (i cs cl ls ll : Nat) :
    ∀ (pre p1 x y : List Nat), G = pre ++ gs → pre.length = i → pre = p1 ++ List.replicate cl 0 →
      (cl ≠ 0 → p1.length = cs) → G = x ++ List.replicate ll 0 ++ y → x.length = ls →
      ∃ x y, G = x ++ List.replicate (longestZeros gs i cs cl ls ll).2 0 ++ y ∧
        x.length = (longestZeros gs i cs cl ls ll).1 := by
  -- a zero read: the current run grows by it, and starts at `i` if it was empty
  have ext : ∀ {rest pre p1 : List Nat} {i cs cl : Nat}, G = pre ++ 0 :: rest → pre.length = i →
      pre = p1 ++ List.replicate cl 0 → (cl ≠ 0 → p1.length = cs) →
      G = (pre ++ [0]) ++ rest ∧ (pre ++ [0]).length = i + 1 ∧ pre ++ [0] = p1 ++ List.replicate (cl + 1) 0 ∧
      p1.length = (if cl = 0 then i else cs) ∧ G = p1 ++ List.replicate (cl + 1) 0 ++ rest := by
    intro rest pre p1 i cs cl hG hi hp hcs
    have e : pre ++ [0] = p1 ++ List.replicate (cl + 1) 0 := by
      rw [hp, List.append_assoc, List.replicate_succ']
    refine ⟨by rw [hG, List.append_assoc]; rfl, by rw [List.length_append, hi]; rfl, e, ?_,
      by rw [← e, hG, List.append_assoc]; rfl⟩
    by_cases c0 : cl = 0
    · rw [if_pos c0, ← hi, hp, c0]; exact (congrArg List.length (List.append_nil p1)).symm
    · rw [if_neg c0]; exact hcs c0
  fun_induction longestZeros gs i cs cl ls ll
  case case1 => exact fun _ _ x y _ _ _ _ hb hx => ⟨x, y, hb, hx⟩
  case case2 ih =>
    intro pre p1 _ _ hG hi hp hcs _ _
    obtain ⟨h1, h2, h3, h4, h5⟩ := ext hG hi hp hcs
    exact ih _ p1 p1 _ h1 h2 h3 (fun _ => h4) h5 h4
  case case3 ih =>
    intro pre p1 x y hG hi hp hcs hb hx
    obtain ⟨h1, h2, h3, h4, -⟩ := ext hG hi hp hcs
    exact ih _ p1 x y h1 h2 h3 (fun _ => h4) hb hx
  case case4 g rest i _ _ _ _ _ ih =>
    intro pre _ x y hG hi _ _ hb hx
    exact ih (pre ++ [g]) (pre ++ [g]) x y (by rw [hG, List.append_assoc]; rfl)
      (by rw [List.length_append, hi]; rfl) (List.append_nil _).symm (fun h => absurd rfl h) hb hx

/-- what `fmtV6` writes: the IPv4-mapped form, a run of two or more zero groups cut out, or all groups -/
theorem fmtV6_cases (a : Nat) :
    (a / 2 ^ 32 = 0xffff ∧ fmtV6 a = [58, 58, 102, 102, 102, 102, 58] ++ fmtV4 (a % 2 ^ 32)) ∨
    (∃ xs ys len, 1 < len ∧ groups a = xs ++ List.replicate len 0 ++ ys ∧
      fmtV6 a = joinColon xs ++ 58 :: 58 :: joinColon ys) ∨
    fmtV6 a = joinColon (groups a) := by
  by_cases hm : a / 2 ^ 32 = 0xffff
  · exact Or.inl ⟨hm, by rw [fmtV6, if_pos hm]⟩
  · obtain ⟨x, y, hs, hx⟩ := longestZeros_split (groups a) (groups a) 0 0 0 0 0 [] [] [] (groups a) rfl rfl rfl
      (fun h => absurd rfl h) rfl rfl
    rw [fmtV6, if_neg hm]
    dsimp only
    generalize longestZeros (groups a) 0 0 0 0 0 = r at hs hx ⊢
    obtain ⟨st, len⟩ := r
    dsimp only at hs hx ⊢
    by_cases hl : len > 1
    · have ht : (groups a).take st = x := by rw [hs, List.append_assoc, List.take_left' hx]
      have hd : (groups a).drop (st + len) = y := by
        rw [hs, List.drop_left' (by rw [List.length_append, List.length_replicate, hx])]
      exact Or.inr (Or.inl ⟨x, y, len, hl, hs, by rw [if_pos hl, ht, hd, List.append_assoc]; rfl⟩)
    · exact Or.inr (Or.inr (if_neg hl))

theorem parseV6_plain (gs : List Nat) (hlen : gs.length = 8) (hlt : ∀ g ∈ gs, g < 65536) :
    parseV6 (joinColon gs) = some (groupsToNat gs) := by
  have hfd := findDouble_joinColon gs [] 0
  rw [List.append_nil] at hfd
  unfold parseV6
  rw [hfd]
  simp only [findDouble, parseGroups_joinColon gs true hlt, hlen, if_true]

/-- groups, `::`, then any text the group reader accepts: the gap is filled with zeros -/
theorem parseV6_double (xs ts : List Nat) (T : Bytes) (hx : ∀ g ∈ xs, g < 65536)
    (hT : parseGroups T true = some ts) (hlen : xs.length + ts.length ≤ 7) :
    parseV6 (joinColon xs ++ 58 :: 58 :: T) =
      some (groupsToNat (xs ++ List.replicate (8 - xs.length - ts.length) 0 ++ ts)) := by
  have hfd : findDouble (joinColon xs ++ 58 :: 58 :: T) 0 = some (0 + (joinColon xs).length) :=
    findDouble_joinColon xs _ 0
  have htake : (joinColon xs ++ 58 :: 58 :: T).take (0 + (joinColon xs).length) = joinColon xs :=
    List.take_left' (Nat.zero_add _).symm
  have hdrop : (joinColon xs ++ 58 :: 58 :: T).drop (0 + (joinColon xs).length + 2) = T := by
    rw [Nat.zero_add, List.drop_length_add_append]; rfl
  unfold parseV6
  rw [hfd]
  simp only [htake, hdrop, parseGroups_joinColon xs false hx, hT]
  rw [if_pos hlen]

theorem parseV6_mapped (s : Bytes) (v : Nat) (h58 : ∀ c ∈ s, c ≠ 58) (h46 : 46 ∈ s) (hv : parseV4 s = some v) :
    parseV6 ([58, 58, 102, 102, 102, 102, 58] ++ s) = some (0xffff * 2 ^ 32 + v) := by
  have hsplit : splitOn 58 (102 :: 102 :: 102 :: 102 :: 58 :: s) [] = [[102, 102, 102, 102], s] :=
    (splitOn_sep 58 [102, 102, 102, 102] s (by decide)).trans (by rw [splitOn_last 58 s h58])
  have hgrp : parseGroup [102, 102, 102, 102] = some 65535 := by decide
  have htail : parseGroups (102 :: 102 :: 102 :: 102 :: 58 :: s) true = some [65535, v / 65536, v % 65536] := by
    unfold parseGroups
    rw [if_neg (List.cons_ne_nil _ _), hsplit]
    simp only [List.getLast?_cons_cons, List.getLast?_singleton, List.dropLast_cons_cons, List.dropLast_singleton,
      List.mapM_cons, List.mapM_nil, hgrp, List.contains_iff_mem.2 h46, if_true, hv, Option.map_some]
    rfl
  refine (parseV6_double [] _ _ nofun htail (show 0 + 3 ≤ 7 by decide)).trans (congrArg some ?_)
  show groupsToNat [0, 0, 0, 0, 0, 65535, v / 65536, v % 65536] = _
  simp only [groupsToNat, List.foldl_cons, List.foldl_nil]
  omega

theorem parseV6_fmtV6 (a : Nat) (h : a < 2 ^ 128) : parseV6 (fmtV6 a) = some a := by
  have hlen := groups_length a
  have hlt := groups_lt a
  rcases fmtV6_cases a with ⟨hm, e⟩ | ⟨xs, ys, len, hl, hs, e⟩ | e
  · rw [e, parseV6_mapped _ _ (fun c hc => by have := (fmtV4_chars _).2 c hc; omega) (fmtV4_has46 _)
      (parseV4_fmtV4 _ (Nat.mod_lt _ (by omega)))]
    exact congrArg some (by omega)
  · rw [hs] at hlt
    rw [hs, List.length_append, List.length_append, List.length_replicate] at hlen
    rw [e, parseV6_double xs ys _ (fun g hg => hlt g (List.mem_append_left _ (List.mem_append_left _ hg)))
        (parseGroups_joinColon ys true fun g hg => hlt g (List.mem_append_right _ hg)) (by omega),
      show 8 - xs.length - ys.length = len by omega, ← hs, groupsToNat_groups a h]
  · rw [e, parseV6_plain _ hlen hlt, groupsToNat_groups a h]

end Rpki.ResText
