/-
  The serde_json reader model (`Rpki/Model/JsonRead.lean`) reads what the writer model
  (`Rpki/Model/JsonText.lean`) writes: for every tree, and for every well-formed file.  It is shown once,
  for any writer that puts white space between the tokens of the compact form (`Layout`).
-/
import Rpki.Model.JsonRead
import Rpki.Proofs.JsonTextTyped
namespace Rpki.JsonRead
open Rpki.Slurm Rpki.JsonText Rpki.ResText

def Ws (w : List Nat) : Prop := ∀ c ∈ w, isWs c = true

theorem Ws.cons {a : Nat} {w : List Nat} (h : isWs a = true) (hw : Ws w) : Ws (a :: w) :=
  List.forall_mem_cons.mpr ⟨h, hw⟩

theorem skipWs_cons (c : Nat) (r : List Nat) (h : isWs c = false) : skipWs (c :: r) = c :: r := by
  rw [skipWs, h]; rfl

theorem skipWs_ws : ∀ (w r : List Nat), Ws w → skipWs (w ++ r) = skipWs r := by
  intro w
  induction w with
  | nil => intro r _; rfl
  | cons c w ih =>
    intro r h
    rw [List.cons_append, skipWs, h c List.mem_cons_self, if_pos rfl]
    exact ih r (fun x hx => h x (List.mem_cons_of_mem _ hx))

theorem skipWs_sep {w : List Nat} (c : Nat) (r : List Nat) (hw : Ws w) (hc : isWs c = false) :
    skipWs (w ++ c :: r) = c :: r := by
  rw [skipWs_ws w _ hw, skipWs_cons c r hc]

theorem readVal_ws (f : Nat) (w b : List Nat) (hw : ∀ c ∈ w, isWs c = true) :
    readVal f (w ++ b) = readVal f b := by
  cases f with
  | zero => rfl
  | succ f =>
    show (match skipWs (w ++ b) with | [] => none | c :: r => _) = _
    rw [skipWs_ws w b hw]
    rfl

theorem readStr_u (f : Nat) (r acc : List Nat) : readStr (f + 1) (92 :: 117 :: r) acc =
    match readU r with
    | some (cp, r3) => readStr f r3 ((utf8 cp).reverse ++ acc)
    | none => none := rfl

theorem readStr_step (f c : Nat) (r acc : List Nat) :
    readStr (f + 1) (escByte c ++ r) acc = readStr f r (c :: acc) := by
  -- the paths of `escByte`: seven two-character escapes, then `\u00xx` (8) and the octet itself (9)
  fun_cases escByte c
  case case8 h =>
    have hu : readU (48 :: 48 :: hexDigit (c / 16) :: hexDigit (c % 16) :: r) = some (c, r) := by
      simp only [readU, hex4, show hexVal 48 = some 0 from rfl, hexVal_hexDigit (c / 16) (by omega),
        hexVal_hexDigit (c % 16) (by omega), Nat.zero_mul, Nat.zero_add, Nat.div_add_mod',
        show ¬ (56320 ≤ c ∧ c ≤ 57343) by omega, show ¬ (55296 ≤ c ∧ c ≤ 56319) by omega, if_false]
    simp only [List.cons_append, List.nil_append, readStr_u, hu, utf8, if_pos (show c < 128 by omega)]
    rfl
  case case9 h1 h2 _ _ _ _ _ h =>
    show (if c = 34 then _ else if c = 92 then _ else if c < 32 then _ else _) = _
    rw [if_neg h1, if_neg h2, if_neg h]
    rfl
  all_goals subst c; rfl

theorem readStr_escape : ∀ (s : List Nat) (f : Nat) (rest acc : List Nat), s.length < f →
    readStr f (escape s ++ 34 :: rest) acc = some (acc.reverse ++ s, rest)
  | [], f + 1, rest, acc, _ => by rw [List.append_nil]; rfl
  | c :: r, f + 1, rest, acc, hf => by
    rw [escape, List.append_assoc, readStr_step, readStr_escape r f rest _ (Nat.lt_of_succ_lt_succ hf),
      List.reverse_cons, List.append_assoc]
    rfl

theorem length_le_escape : ∀ (s : List Nat), s.length ≤ (escape s).length := by
  intro s
  induction s with
  | nil => exact Nat.le_refl _
  | cons c r ih =>
    have : 1 ≤ (escByte c).length := by fun_cases escByte c <;> exact Nat.succ_pos _
    rw [escape, List.length_cons, List.length_append]
    omega

theorem readStr_escape_nil (s rest : List Nat) :
    readStr ((escape s ++ 34 :: rest).length + 1) (escape s ++ 34 :: rest) [] = some (s, rest) := by
  have := length_le_escape s
  exact readStr_escape s _ rest [] (by rw [List.length_append]; omega)

/-- what may follow a number for the serde reader: `JsonText.NoDigitHead` (all the reference reader needs) and no
fraction or exponent either -/
def NumEnd (rest : List Nat) : Prop :=
  ∀ c r, rest = c :: r → isDigit c = false ∧ c ≠ 46 ∧ c ≠ 101 ∧ c ≠ 69

theorem numEnd_cons {c : Nat} {r : List Nat} (h : isDigit c = false ∧ c ≠ 46 ∧ c ≠ 101 ∧ c ≠ 69) :
    NumEnd (c :: r) := by
  intro _ _ e; cases e; exact h

theorem NumEnd.ws {w b : List Nat} (hw : Ws w) (h : NumEnd b) : NumEnd (w ++ b) := by
  cases w with
  | nil => exact h
  | cons a w =>
    have := hw a List.mem_cons_self
    simp only [isWs, Bool.or_eq_true, decide_eq_true_eq] at this
    exact numEnd_cons (by rcases this with ((rfl | rfl) | rfl) | rfl <;> decide)

theorem readNum_decimal (n : Nat) (rest : List Nat) (hr : NumEnd rest) :
    readNum (decimal n ++ rest) = some (some n, rest) := by
  obtain ⟨c, r, e, h1, h2, h0⟩ := decimal_head n
  have htw := JsonText.takeWhile_digits (decimal n) rest (decimal_all_isDigit n) (fun c r e => (hr c r e).1)
  have hsm : stripMinus (decimal n ++ rest) = (false, decimal n ++ rest) := by
    rw [e, List.cons_append, stripMinus]
    intro _ h; cases h; omega
  have hfrac : readFrac rest = some (false, rest) := by
    unfold readFrac
    split
    · next r2 => exact absurd rfl (hr 46 r2 rfl).2.1
    · rfl
  have hexp : readExp rest = some (false, rest) := by
    cases rest with
    | nil => rfl
    | cons c r => exact if_neg (by have := hr c r rfl; omega)
  unfold readNum
  simp only [hsm, digits, htw, decimal_no_leading_zero n, if_false, List.drop_left, hfrac, hexp, decimal_value,
    show ¬ decimal n = [] by rw [e]; exact List.cons_ne_nil _ _]
  exact if_neg (by decide)

theorem keyOf_keyName (k : Key) : keyOf (keyName k) = k := by
  rw [keyOf, JsonText.keyOfName_keyName]; rfl

theorem readVal_quote (f : Nat) (s rest : List Nat) :
    readVal (f + 1) (quote s ++ rest) = some (.str s, rest) := by
  rw [quote_append]
  show (readStr _ _ []).map _ = _
  rw [readStr_escape_nil]
  rfl

theorem readVal_num (f n : Nat) (rest : List Nat) (hr : NumEnd rest) :
    readVal (f + 1) (decimal n ++ rest) = some (.num n, rest) := by
  obtain ⟨c, r, e, h1, h2, _⟩ := decimal_head n
  have hn := readNum_decimal n rest hr
  rw [e, List.cons_append] at hn ⊢
  show (match skipWs (c :: (r ++ rest)) with | [] => none | c :: r => _) = _
  rw [skipWs_cons c _ (by simp [isWs]; omega)]
  have hd : isDigit c = true := by simp [isDigit, h1, h2]
  obtain ⟨g1, g2, g3, g4, g5, g6⟩ := digit_not_opener hd
  show (if c = 110 then _ else _) = _
  rw [if_neg g1, if_neg g2, if_neg g3, if_neg g4, if_neg g5, if_neg g6, if_pos (.inr hd), hn]
  rfl

theorem readVal_arr (f : Nat) (b r : List Nat) (l : List Json) (h : readElems f b [] = some (l, r)) :
    readVal (f + 1) (91 :: b) = some (.arr l, r) := by
  show (match skipWs b with | 93 :: r' => some (Json.arr [], r') | _ => (readElems f b []).map _) = _
  split
  · next r' hs =>
    have : readElems f b [] = none := by
      cases f with
      | zero => rfl
      | succ f =>
        have : readVal f b = none := by
          cases f with
          | zero => rfl
          | succ f => show (match skipWs b with | [] => none | c :: r => _) = none; rw [hs]; rfl
        rw [readElems, this]
    rw [this] at h; cases h
  · rw [h]; rfl

theorem readVal_obj (f : Nat) (b r : List Nat) (l : List (Key × Json)) (h : readMembers f b [] = some (l, r)) :
    readVal (f + 1) (123 :: b) = some (.obj l, r) := by
  show (match skipWs b with | 125 :: r' => some (Json.obj [], r') | _ => (readMembers f b []).map _) = _
  split
  · next r' hs =>
    have : readMembers f b [] = none := by
      cases f with
      | zero => rfl
      | succ f => rw [readMembers, hs]; rfl
    rw [this] at h; cases h
  · rw [h]; rfl

theorem readMembers_name (f : Nat) (k : Key) (w w' w'' b : List Nat) (acc : List (Key × Json))
    (hw : Ws w) (hw' : Ws w') (hw'' : Ws w'') :
    readMembers (f + 1) (w ++ (quote (keyName k) ++ (w' ++ 58 :: (w'' ++ b)))) acc =
      match readVal f b with
      | some (v, r) =>
        (match skipWs r with
         | 44 :: r' => readMembers f r' ((k, v) :: acc)
         | 125 :: r' => some (((k, v) :: acc).reverse, r')
         | _ => none)
      | none => none := by
  rw [readMembers, skipWs_ws w _ hw, quote_append, skipWs_cons 34 _ rfl]
  simp only [readStr_escape_nil, skipWs_ws w' _ hw', skipWs_cons 58 _ rfl, readVal_ws f w'' b hw'', keyOf_keyName]
  rfl

theorem readVal_atom (f : Nat) (j : Json) (rest : List Nat)
    (hj : match j with | .arr (_ :: _) | .obj (_ :: _) => False | _ => True) (hr : NumEnd rest) :
    readVal (f + 1) (render j ++ rest) = some (erase j, rest) := by
  rcases j with _ | n | s | p | b | b | (_ | ⟨x, xs⟩) | (_ | ⟨x, xs⟩)
  case bool => cases b <;> rfl
  case num => exact readVal_num f n rest hr
  case str => exact readVal_quote f s rest
  case pfx => exact readVal_quote f _ rest
  case bytes => exact readVal_quote f _ rest
  case arr.cons => exact hj.elim
  case obj.cons => exact hj.elim
  all_goals rfl

/-- A writer of JSON text that puts white space, and nothing else, between the tokens of the compact form (none
inside an empty `[]` / `{}`, which `atom` keeps as they are):
`v d j` is the text of the value `j` at depth `d`; `e d l` and `m d l` are the elements and the members of a
nonempty array or object, with the closing bracket. -/
structure Layout (v : Nat → Json → List Nat) (e : Nat → List Json → List Nat)
    (m : Nat → List (Key × Json) → List Nat) : Prop where
  atom : ∀ d j, (match j with | .arr (_ :: _) | .obj (_ :: _) => False | _ => True) → v d j = render j
  arr : ∀ d x xs, ∃ w, Ws w ∧ v d (.arr (x :: xs)) = 91 :: (w ++ e (d + 1) (x :: xs))
  obj : ∀ d x xs, ∃ w, Ws w ∧ v d (.obj (x :: xs)) = 123 :: (w ++ m (d + 1) (x :: xs))
  last : ∀ d x, ∃ w, Ws w ∧ e d [x] = v d x ++ (w ++ [93])
  next : ∀ d x y r, ∃ w w', Ws w ∧ Ws w' ∧ e d (x :: y :: r) = v d x ++ (w ++ 44 :: (w' ++ e d (y :: r)))
  mlast : ∀ d k x, ∃ w₁ w₂ w, Ws w₁ ∧ Ws w₂ ∧ Ws w ∧
    m d [(k, x)] = quote (keyName k) ++ (w₁ ++ 58 :: (w₂ ++ (v d x ++ (w ++ [125]))))
  mnext : ∀ d k x y r, ∃ w₁ w₂ w w', Ws w₁ ∧ Ws w₂ ∧ Ws w ∧ Ws w' ∧
    m d ((k, x) :: y :: r) = quote (keyName k) ++ (w₁ ++ 58 :: (w₂ ++ (v d x ++ (w ++ 44 :: (w' ++ m d (y :: r))))))

namespace Layout
variable {v : Nat → Json → List Nat} {e : Nat → List Json → List Nat}
  {m : Nat → List (Key × Json) → List Nat} (L : Layout v e m)
include L

theorem ne_nil (d : Nat) (j : Json) : v d j ≠ [] := by
  rcases j with _ | _ | _ | _ | _ | _ | (_ | ⟨x, xs⟩) | (_ | ⟨x, xs⟩)
  case arr.cons => obtain ⟨w, _, h⟩ := L.arr d x xs; rw [h]; exact List.cons_ne_nil _ _
  case obj.cons => obtain ⟨w, _, h⟩ := L.obj d x xs; rw [h]; exact List.cons_ne_nil _ _
  all_goals rw [L.atom d _ trivial]; exact render_ne_nil _

/-- Induction on the fuel `f`, which bounds the length of the text read (`length_parts` hands the bound on to the
parts).  `NumEnd rest` is what lets a value that is a number stop; the element and member conjuncts carry a leading
`w` because the writer's white space after `[`, `{` and `,` is skipped by the loop's first step, not by the value. -/
theorem read (f : Nat) :
    (∀ j d rest, (v d j).length ≤ f → NumEnd rest → readVal f (v d j ++ rest) = some (erase j, rest)) ∧
    (∀ x xs d rest acc w, Ws w → (e d (x :: xs)).length ≤ f →
      readElems f (w ++ (e d (x :: xs) ++ rest)) acc = some (acc.reverse ++ eraseArr (x :: xs), rest)) ∧
    (∀ k x xs d rest acc w, Ws w → (m d ((k, x) :: xs)).length ≤ f →
      readMembers f (w ++ (m d ((k, x) :: xs) ++ rest)) acc =
        some (acc.reverse ++ eraseObj ((k, x) :: xs), rest)) := by
  induction f with
  | zero =>
    refine ⟨fun j d _ hf => absurd hf (Lists.not_length_le_zero (L.ne_nil d j)),
      fun x xs d _ _ _ _ hf => absurd hf (Lists.not_length_le_zero ?_),
      fun k x xs d _ _ _ _ hf => absurd hf (Lists.not_length_le_zero ?_)⟩
    · cases xs with
      | nil => obtain ⟨_, _, h⟩ := L.last d x; exact h ▸ List.append_ne_nil_of_left_ne_nil (L.ne_nil d x) _
      | cons y r =>
        obtain ⟨_, _, _, _, h⟩ := L.next d x y r; exact h ▸ List.append_ne_nil_of_left_ne_nil (L.ne_nil d x) _
    · cases xs with
      | nil => obtain ⟨_, _, _, _, _, _, h⟩ := L.mlast d k x; exact h ▸ List.cons_ne_nil _ _
      | cons y r => obtain ⟨_, _, _, _, _, _, _, _, h⟩ := L.mnext d k x y r; exact h ▸ List.cons_ne_nil _ _
  | succ f ih =>
    obtain ⟨ihv, ihe, ihm⟩ := ih
    refine ⟨fun j d rest hf hr => ?_, fun x xs d rest acc w hw hf => ?_, fun k x xs d rest acc w hw hf => ?_⟩
    · rcases j with _ | _ | _ | _ | _ | _ | (_ | ⟨x, xs⟩) | (_ | ⟨⟨k, x⟩, xs⟩)
      case arr.cons =>
        obtain ⟨w, hw, h⟩ := L.arr d x xs
        rw [h] at hf ⊢
        rw [List.cons_append, List.append_assoc]
        exact readVal_arr f _ _ _ (ihe x xs (d + 1) rest [] w hw (length_parts (a := []) (w := []) hf).2)
      case obj.cons =>
        obtain ⟨w, hw, h⟩ := L.obj d (k, x) xs
        rw [h] at hf ⊢
        rw [List.cons_append, List.append_assoc]
        exact readVal_obj f _ _ _ (ihm k x xs (d + 1) rest [] w hw (length_parts (a := []) (w := []) hf).2)
      all_goals rw [L.atom d _ trivial]; exact readVal_atom f _ rest trivial hr
    · cases xs with
      | nil =>
        obtain ⟨w₁, hw₁, h⟩ := L.last d x
        rw [h] at hf ⊢
        have hx := ihv x d (w₁ ++ 93 :: rest) (length_parts (w' := []) (b := []) hf).1
          (.ws hw₁ (numEnd_cons (by decide)))
        rw [List.append_assoc, List.append_assoc, List.singleton_append, readElems, readVal_ws f w _ hw, hx]
        simp only [skipWs_sep 93 rest hw₁ rfl, List.reverse_cons]
        rfl
      | cons y r =>
        obtain ⟨w₁, w₂, hw₁, hw₂, h⟩ := L.next d x y r
        rw [h] at hf ⊢
        have hf := length_parts hf
        have hx := ihv x d (w₁ ++ 44 :: (w₂ ++ (e d (y :: r) ++ rest))) hf.1
          (.ws hw₁ (numEnd_cons (by decide)))
        rw [List.append_assoc, List.append_assoc, List.cons_append, List.append_assoc, readElems,
          readVal_ws f w _ hw, hx]
        simp only [skipWs_sep 44 _ hw₁ rfl, ihe y r d rest _ w₂ hw₂ hf.2, List.reverse_cons, List.append_assoc]
        rfl
    · cases xs with
      | nil =>
        obtain ⟨w₁, w₂, w₃, hw₁, hw₂, hw₃, h⟩ := L.mlast d k x
        rw [h] at hf ⊢
        have hx := ihv x d (w₃ ++ 125 :: rest)
          (length_parts (w' := []) (b := []) (Nat.le_succ_of_le (length_parts hf).2)).1
          (.ws hw₃ (numEnd_cons (by decide)))
        simp only [List.append_assoc, List.cons_append, List.nil_append]
        rw [readMembers_name f k w w₁ w₂ _ acc hw hw₁ hw₂, hx]
        simp only [skipWs_sep 125 rest hw₃ rfl, List.reverse_cons]
        rfl
      | cons y r =>
        obtain ⟨k', y⟩ := y
        obtain ⟨w₁, w₂, w₃, w₄, hw₁, hw₂, hw₃, hw₄, h⟩ := L.mnext d k x (k', y) r
        rw [h] at hf ⊢
        have hf := length_parts (Nat.le_succ_of_le (length_parts hf).2)
        have hx := ihv x d (w₃ ++ 44 :: (w₄ ++ (m d ((k', y) :: r) ++ rest))) hf.1
          (.ws hw₃ (numEnd_cons (by decide)))
        simp only [List.append_assoc, List.cons_append]
        rw [readMembers_name f k w w₁ w₂ _ acc hw hw₁ hw₂, hx]
        simp only [skipWs_sep 44 _ hw₃ rfl, ihm k' y r d rest _ w₄ hw₄ hf.2, List.reverse_cons,
          List.append_assoc]
        rfl

theorem read_text (d : Nat) (j : Json) : readText (v d j) = some (erase j) := by
  have := (L.read ((v d j).length + 1)).1 j d [] (Nat.le_succ _) nofun
  rw [List.append_nil] at this
  unfold readText
  rw [this]
  rfl

/-- **`from_str` after any such writer**, for the tree of a well-formed file -/
theorem read_file (d : Nat) (f : SlurmFile) (hw : f.WF) (ht : FileTextWF f) :
    readFile (v d f.toJson) = some f := by
  rw [readFile, L.read_text, Option.bind_some]
  exact fromJson_retype_erase f hw ht

end Layout

theorem compact : Layout (fun _ => render) (fun _ => renderArr) (fun _ => renderObj) where
  atom _ _ _ := rfl
  arr _ _ _ := ⟨[], nofun, rfl⟩
  obj _ _ _ := ⟨[], nofun, rfl⟩
  last _ _ := ⟨[], nofun, rfl⟩
  next _ _ _ _ := ⟨[], [], nofun, nofun, rfl⟩
  mlast _ _ _ := ⟨[], [], [], nofun, nofun, nofun, rfl⟩
  mnext _ _ _ _ _ := ⟨[], [], [], [], nofun, nofun, nofun, nofun, rfl⟩

theorem readElems_render : ∀ (l : List Json) (_ : l ≠ []) (f : Nat) (rest : List Nat) (acc : List Json),
    (renderArr l).length ≤ f →
    readElems f (renderArr l ++ rest) acc = some (acc.reverse ++ eraseArr l, rest)
  | [], hne, _, _, _ => absurd rfl hne
  | x :: xs, _, f, rest, acc => (compact.read f).2.1 x xs 0 rest acc [] nofun

theorem readMembers_render : ∀ (l : List (Key × Json)) (_ : l ≠ []) (f : Nat) (rest : List Nat)
    (acc : List (Key × Json)), (renderObj l).length ≤ f →
    readMembers f (renderObj l ++ rest) acc = some (acc.reverse ++ eraseObj l, rest)
  | [], hne, _, _, _ => absurd rfl hne
  | (k, v) :: xs, _, f, rest, acc => (compact.read f).2.2 k v xs 0 rest acc [] nofun

theorem readText_render (j : Json) : readText (render j) = some (erase j) := compact.read_text 0 j

end Rpki.JsonRead
