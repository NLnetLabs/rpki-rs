/-
  The mode-parametrized readers of `Model/Ber.lean` at `ber = false` are the DER readers of `Model/Der.lean`,
  `Model/Skip.lean`, `Model/Manifest.lean` and `Model/CertDer.lean`.
-/
import Rpki.Model.Ber
import Rpki.Model.CertDer
namespace Rpki
open Rpki.Der Rpki.CertDer

theorem readLenM_false : readLenM false = readLen := by
  funext b
  unfold readLenM readLen
  simp only [Bool.false_eq_true, false_or]
  rfl

theorem readLenXM_false : readLenXM false = readLenX := by
  funext b
  unfold readLenXM readLenX
  simp only [readLenM_false]
  rfl

theorem skipLoopM_false : skipLoopM false = skipLoop := by
  funext fuel
  induction fuel with
  | zero => rfl
  | succ n ih =>
    funext cur st
    unfold skipLoopM skipLoop
    rw [readLenXM_false, ih]
    rfl

theorem skipOneM_false : skipOneM false = skipOne := by
  funext b
  unfold skipOneM skipOne
  rw [skipLoopM_false]

theorem skipAllM_false : skipAllM false = skipAll := by
  funext fuel
  induction fuel with
  | zero => funext b; rfl
  | succ n ih =>
    funext b
    simp only [skipAllM, skipAll, skipOneM_false, ih]
    rfl

/- `readLenX` is `readLen` with one more form: the octet `0x80`, which `readLen` refuses, announces an indefinite length. -/
theorem readLen_indef (r : Bytes) : readLen (0x80 :: r) = none := rfl

theorem readLenX_indef (r : Bytes) : readLenX (0x80 :: r) = some (.indefinite, r) := rfl

theorem readLenX_def (x : Nat) (xs : Bytes) (hx : x ≠ 0x80) :
    readLenX (x :: xs) = (readLen (x :: xs)).map fun (n, r) => (Len.definite n, r) := by
  unfold readLenX
  split
  · rename_i heq; injection heq with h1 _; exact absurd h1 hx
  · rfl

theorem readLenX_nil : readLenX [] = none := rfl

theorem readTlvIM_false (b : Bytes) :
    readTlvIM false b = (readTlv b).map fun (t, c, rest) => (t, c, rest, false) := by
  unfold readTlvIM readTlv
  cases b with
  | nil => rfl
  | cons t r =>
    dsimp only
    rw [readLenXM_false]
    by_cases ht : t % 32 = 31
    · rw [if_pos ht, if_pos ht]; rfl
    rw [if_neg ht, if_neg ht]
    cases r with
    | nil => rfl
    | cons x xs =>
      by_cases hx : x = 0x80
      · subst hx; rfl
      · rw [readLenX_def x xs hx]
        cases readLen (x :: xs) with
        | none => rfl
        | some p => dsimp only [Option.map_some]; split <;> rfl

theorem readTlvM_false : readTlvM false = readTlv := by
  funext b
  unfold readTlvM
  rw [readTlvIM_false]
  cases readTlv b <;> rfl

theorem takeOptConsIM_false (tag : Nat) (b : Bytes) :
    takeOptConsIM false tag b =
      (match takeOptCons tag b with | .absent => .absent | .bad => .bad | .ok c rest => .ok (c, false) rest) := by
  unfold takeOptConsIM takeOptCons
  cases b with
  | nil => rfl
  | cons t r =>
    dsimp only
    rw [readTlvIM_false]
    by_cases h1 : t % 32 = 31
    · rw [if_pos h1, if_pos h1]
    rw [if_neg h1, if_neg h1]
    by_cases h2 : tagNoCons t ≠ tagNoCons tag
    · rw [if_pos h2, if_pos h2]
    rw [if_neg h2, if_neg h2]
    by_cases h3 : (!isCons t) = true
    · rw [if_pos h3, if_pos h3]
    rw [if_neg h3, if_neg h3]
    cases readTlv (t :: r) <;> rfl

theorem takeOptConsM_false : takeOptConsM false = takeOptCons := by
  funext tag b
  unfold takeOptConsM
  rw [takeOptConsIM_false]
  cases takeOptCons tag b <;> rfl

theorem takeOptPrimM_false : takeOptPrimM false = takeOptPrim := by
  funext tag b
  unfold takeOptPrimM takeOptPrim
  cases b with
  | nil => rfl
  | cons t r =>
    simp only [readTlvM_false, Bool.false_eq_true, false_and, if_false]
    rfl

theorem takeConsM_false : takeConsM false = takeCons := by
  funext tag b
  unfold takeConsM takeCons
  rw [takeOptConsM_false]
  rfl

theorem takePrimM_false : takePrimM false = takePrim := by
  funext tag b
  unfold takePrimM takePrim
  rw [takeOptPrimM_false]
  rfl

theorem bitStringTakeM_false : Manifest.bitStringTakeM false = Manifest.bitStringTake := by
  funext c
  unfold Manifest.bitStringTakeM Manifest.bitStringTake
  simp only [Bool.not_false, and_true]
  rfl

theorem takeOptBoolM_false : takeOptBoolM false = takeOptBool := by
  funext b
  unfold takeOptBoolM takeOptBool
  rw [takeOptPrimM_false]
  cases takeOptPrim tagBool b with
  | absent => rfl
  | bad => rfl
  | ok c r =>
    simp only [Bool.false_eq_true, if_false]
    match c with
    | [] => simp
    | [x] =>
      by_cases h0 : x = 0
      · subst h0; simp
      · by_cases h1 : x = 255
        · subst h1; simp
        · simp [h0, h1]
    | x :: y :: rest => simp

end Rpki
