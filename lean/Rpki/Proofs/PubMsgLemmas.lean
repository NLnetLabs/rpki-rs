/-
  RFC 8181 publication messages (`Rpki.Model.PubMsg`): what `write` emits is read back by the reference reader as
  `norm m`, also for empty objects, whose empty text line the reader drops.  Also what the RFC 8183 and RFC 6492 files
  share, since its model functions (`s`, `lookup`, `readContent`) are those of `Model/PubMsg`: octets of string literals,
  attribute lists, `ReadsBack`.
-/
import Rpki.Model.PubMsg
import Rpki.Proofs.XmlReads
import Rpki.Proofs.Digits
namespace Rpki.PubMsg
set_option autoImplicit false
open Rpki.Xml Rpki.XmlDoc


theorem s_inj {x y : String} : s x = s y ↔ x = y :=
  ⟨utf8_octets_inj, fun h => h ▸ rfl⟩

theorem s_ne {x y : String} (h : x ≠ y) : s x ≠ s y := fun e => h (s_inj.1 e)

theorem s_ofList (l : List Char) :
    s (String.ofList l) = (l.flatMap String.utf8EncodeChar).map UInt8.toNat := by
  unfold s String.toUTF8
  rw [String.toByteArray_ofList, byteArray_toList]
  unfold List.utf8Encode
  rw [List.toList_data_toByteArray]

/-- the octets of an ASCII literal are its character codes.  `s "…"` matches the left side: a
string literal unfolds to `String.ofList` of its characters; `h` is closed by evaluation
(`s "…"` itself goes through `String.toUTF8`, whose `ByteArray.toList` does not reduce) -/
theorem s_ascii (l : List Char) (h : ∀ c ∈ l, c.toNat < 128) :
    s (String.ofList l) = l.map Char.toNat := by
  rw [s_ofList]
  induction l with
  | nil => rfl
  | cons c l ih =>
    have hc : c.val.toNat ≤ 127 := Nat.le_of_lt_succ (h c List.mem_cons_self)
    rw [List.flatMap_cons, List.map_append, ih fun d hd => h d (List.mem_cons_of_mem _ hd),
      String.utf8EncodeChar]
    simp only [hc, if_true, List.map_cons, List.map_nil, List.cons_append, List.nil_append,
      UInt8.toNat_ofNat']
    congr 1
    exact Nat.mod_eq_of_lt (by omega)

theorem ofList_s (x : String) (l : List Char) (hx : x = String.ofList l) (h : ∀ c ∈ l, c.toNat < 128) :
    x = String.ofList ((s x).map fun c => Char.ofNat c) := by
  subst hx
  rw [s_ascii l h, List.map_map]
  congr 1
  conv => lhs; rw [← List.map_id l]
  exact List.map_congr_left fun c _ => (Char.ofNat_toNat c).symm

theorem nameOk_s (l : List Char) (h : (!l.isEmpty && l.all fun c => isNameChar c.toNat) = true) :
    NameOk (s (String.ofList l)) := by
  simp only [Bool.and_eq_true, Bool.not_eq_true', List.isEmpty_eq_false_iff, List.all_eq_true] at h
  rw [s_ascii l fun c hc => isNameChar_lt _ (h.2 c hc)]
  refine ⟨fun e => h.1 (List.map_eq_nil_iff.1 e), fun c hc => ?_⟩
  obtain ⟨d, hd, rfl⟩ := List.mem_map.1 hc
  exact h.2 d hd

theorem valueOk_s (l : List Char)
    (h : (l.all fun c => c.toNat < 128 && c.toNat != 34 && c.toNat != 60) = true) :
    ValueOk (s (String.ofList l)) := by
  simp only [List.all_eq_true, Bool.and_eq_true, decide_eq_true_eq, bne_iff_ne] at h
  rw [s_ascii l fun c hc => (h c hc).1.1]
  constructor <;>
  · intro hm
    obtain ⟨d, hd, e⟩ := List.mem_map.1 hm
    have := h d hd
    omega

def BytesOk (b : Bytes) : Prop := ∀ x ∈ b, x < 256

/-- tags and URIs need no bound: escaping and un-escaping work on any numbers -/
def Pdu.WF : Pdu → Prop
  | .publish _ _ c => BytesOk c
  | .update _ _ c h => BytesOk c ∧ BytesOk h ∧ h.length = 32
  | .withdraw _ _ h => BytesOk h ∧ h.length = 32

def Pdu.nonEmpty : Pdu → Prop
  | .publish _ _ c => c ≠ []
  | .update _ _ c _ => c ≠ []
  | .withdraw _ _ _ => True

def Msg.WF : Msg → Prop
  | .delta es => ∀ e ∈ es, e.WF
  | .listReply es => ∀ e ∈ es, BytesOk e.hash ∧ e.hash.length = 32
  | .errors cs => ∀ c ∈ cs, c < 8
  | _ => True

/-- no empty objects -/
def Msg.Plain : Msg → Prop
  | .delta es => ∀ e ∈ es, e.nonEmpty
  | _ => True


-- `hexVal`, `hexDigit` are word for word those of `Model/ResText`
theorem hexVal_hexDigit (v : Nat) (h : v < 16) : hexVal (hexDigit v) = some v :=
  ResText.hexVal_hexDigit v h

theorem hexDigit_range (v : Nat) : (48 ≤ hexDigit v ∧ hexDigit v ≤ 57) ∨ 97 ≤ hexDigit v := by
  unfold hexDigit
  by_cases hv : v < 10
  · rw [if_pos hv]; exact .inl ⟨Nat.le_add_right _ _, Nat.add_le_add_left (Nat.le_of_lt_succ hv) 48⟩
  · rw [if_neg hv]; exact .inr (Nat.add_le_add_left (Nat.le_of_not_lt hv) 87)

theorem hex_cons (x : Nat) (b : Bytes) : hex (x :: b) = hexDigit (x / 16) :: hexDigit (x % 16) :: hex b := by
  simp [hex]

theorem unhex_hex (b : Bytes) (hb : BytesOk b) : unhex (hex b) = some b := by
  induction b with
  | nil => simp [hex, unhex]
  | cons x rest ih =>
    have hx : x < 256 := hb x List.mem_cons_self
    rw [hex_cons, unhex, hexVal_hexDigit _ (by omega), hexVal_hexDigit _ (by omega),
      ih (fun y hy => hb y (List.mem_cons_of_mem _ hy))]
    simp only [Option.some.injEq, List.cons.injEq, and_true]
    omega

theorem readHash_hex (h : Bytes) (hb : BytesOk h) (hl : h.length = 32) : readHash (hex h) = some h := by
  unfold readHash
  rw [unhex_hex h hb]
  simp only [hl, if_true]

theorem mem_hex_range (b : Bytes) : ∀ x ∈ hex b, (48 ≤ x ∧ x ≤ 57) ∨ 97 ≤ x := by
  induction b with
  | nil => intro x hx; simp [hex] at hx
  | cons y rest ih =>
    intro x hx
    rw [hex_cons] at hx
    simp only [List.mem_cons] at hx
    rcases hx with rfl | rfl | hx
    · exact hexDigit_range _
    · exact hexDigit_range _
    · exact ih x hx

theorem hex_valueOk (b : Bytes) : ValueOk (hex b) := by
  constructor
  · intro h; have := mem_hex_range b 34 h; omega
  · intro h; have := mem_hex_range b 60 h; omega

theorem b64Encode_textOk (d : Bytes) (hne : d ≠ []) : TextOk (b64Encode d) := textOk_b64Encode d hne

/-- an attribute that is written only when present (RFC 8183 `tag`, RFC 6492 request limits) -/
def optA (k : Bytes) : Option Bytes → List (Bytes × Bytes)
  | some v => [(k, v)]
  | none => []

theorem optA_ok {k : Bytes} (hk : NameOk k) (o : Option Bytes) (ho : ∀ v, o = some v → ValueOk v) :
    AttrsOk (optA k o) := by
  cases o with
  | none => exact ok_nil
  | some v => exact ok_cons hk (ho v rfl) ok_nil

theorem nameOk_tag : NameOk (s "tag") := nameOk_s _ (by decide)
theorem nameOk_uri : NameOk (s "uri") := nameOk_s _ (by decide)
theorem nameOk_hash : NameOk (s "hash") := nameOk_s _ (by decide)

/-- `pduNode` with the body of a `<publish>` as a parameter: `b64Body` as written, `readBackBody` as read back -/
def pduNodeW (bt : Bytes → Option Nodes) : Pdu → Node
  | .publish t uri c => .elem (s "publish") [tagAttr t, (s "uri", escapeAttr uri)] (bt c)
  | .update t uri c h => .elem (s "publish") [tagAttr t, (s "uri", escapeAttr uri), (s "hash", hex h)] (bt c)
  | .withdraw t uri h => .elem (s "withdraw") [tagAttr t, (s "uri", escapeAttr uri), (s "hash", hex h)] none

def bodyW (bt : Bytes → Option Nodes) : Msg → List Node
  | .delta es => es.map (pduNodeW bt)
  | m => body m

def rootOf (m : Msg) (kids : List Node) : Node :=
  .elem (s "msg")
    [(s "xmlns", ns), (s "version", version), (s "type", if isQuery m then s "query" else s "reply")]
    (some (Nodes.ofList kids))

theorem toTree_eq (m : Msg) : toTree m = rootOf m (body m) := rfl

theorem pduNode_reads (e : Pdu) : Reads (pduNode e) (pduNodeW readBackBody e) := by
  have h2 : ∀ t u rest, AttrsOk rest → AttrsOk (tagAttr t :: (s "uri", escapeAttr u) :: rest) := fun t u rest h =>
    ok_cons nameOk_tag (escapeAttr_safe _) (ok_cons nameOk_uri (escapeAttr_safe u) h)
  have hh : ∀ h, AttrsOk [(s "hash", hex h)] := fun h => ok_cons nameOk_hash (hex_valueOk h) ok_nil
  cases e with
  | publish t u c => exact .b64 (nameOk_s _ (by decide)) (h2 t u _ ok_nil) c
  | update t u c h => exact .b64 (nameOk_s _ (by decide)) (h2 t u _ (hh h)) c
  | withdraw t u h => exact .leaf (nameOk_s _ (by decide)) (h2 t u _ (hh h))

theorem text_s (x : String) (l : List Char) (hx : x = String.ofList l)
    (h : (!l.isEmpty && (l.all fun c => c.toNat < 128 && c.toNat != 60) &&
      (l.head?.all fun c => !isWs c.toNat) && l.getLast?.all fun c => !isWs c.toNat) = true) :
    TextOk (s x) ∧ x = String.ofList ((s x).map fun c => Char.ofNat c) := by
  simp only [Bool.and_eq_true, List.isEmpty_eq_false_iff, List.all_eq_true, Option.all_eq_true, decide_eq_true_eq,
    bne_iff_ne, Bool.not_eq_eq_eq_not, Bool.not_true] at h
  obtain ⟨⟨⟨hne, hl⟩, hhd⟩, hla⟩ := h
  refine ⟨?_, ofList_s x l hx fun c hc => (hl c hc).1⟩
  rw [hx, s_ascii l fun c hc => (hl c hc).1]
  refine ⟨fun e => hne (List.map_eq_nil_iff.1 e), fun hm => ?_, fun c hc => ?_, fun c hc => ?_⟩
  · obtain ⟨d, hd, e⟩ := List.mem_map.1 hm; exact (hl d hd).2 e
  · rw [List.head?_map] at hc; obtain ⟨d, hd, rfl⟩ := Option.map_eq_some_iff.1 hc; exact hhd d hd
  · rw [List.getLast?_map] at hc; obtain ⟨d, hd, rfl⟩ := Option.map_eq_some_iff.1 hc; exact hla d hd

def codeOf (c : Nat) : Bytes := s (codes.getD c ("other_error", "Found some other issue.")).1
def textOf (c : Nat) : Bytes := s (codes.getD c ("other_error", "Found some other issue.")).2

theorem errNode_eq (c : Nat) :
    errNode c = .elem (s "report_error") [(s "error_code", codeOf c)]
      (some (.cons (.elem (s "error_text") [] (some (.cons (.text (textOf c)) .nil))) .nil)) := rfl

set_option maxRecDepth 1000 in
/-- the facts about the eight codes and their texts, by evaluation of the table.  The longest text has
142 characters: as a list it is deeper than the elaborator's default recursion limit allows, so the
limit is raised for this table and the checks of the texts run in the kernel -/
theorem code_facts (c : Nat) (hc : c < 8) :
    ValueOk (codeOf c) ∧ codeIndex (codeOf c) = some c ∧ TextOk (textOf c) ∧
    (codes.getD c ("", "")).2 = String.ofList ((textOf c).map fun c => Char.ofNat c) := by
  rcases c with _ | _ | _ | _ | _ | _ | _ | _ | c
  case succ.succ.succ.succ.succ.succ.succ.succ => exact absurd hc (Nat.not_lt.2 (Nat.le_add_left 8 c))
  all_goals
    simp only [codeOf, textOf, codes, List.getD_cons_zero, List.getD_cons_succ]
    refine ⟨valueOk_s _ (by decide), ?_, text_s _ _ rfl (by decide +kernel)⟩
    simp only [codeIndex, codeIndex.go, codes, s_inj, String.reduceEq, if_true, if_false]

theorem errNode_reads (c : Nat) (hc : c < 8) : Reads (errNode c) (errNode c) := by
  obtain ⟨hv, _, ht, _⟩ := code_facts c hc
  exact errNode_eq c ▸ .node (ks := [_]) (nameOk_s _ (by decide)) (ok_cons (nameOk_s _ (by decide)) hv ok_nil)
    (.one (.text (nameOk_s _ (by decide)) ok_nil ht))

theorem body_reads (m : Msg) (hw : m.WF) : ReadsL (body m) (bodyW readBackBody m) := by
  cases m with
  | listQuery => exact .one (.leaf (nameOk_s _ (by decide)) ok_nil)
  | success => exact .one (.leaf (nameOk_s _ (by decide)) ok_nil)
  | delta es => exact .map _ _ _ fun e _ => pduNode_reads e
  | listReply es =>
    exact .map _ _ _ fun e _ => .leaf (nameOk_s _ (by decide))
      (ok_cons nameOk_uri (escapeAttr_safe _) (ok_cons nameOk_hash (hex_valueOk _) ok_nil))
  | errors cs => exact .map _ _ _ fun c hc => errNode_reads c (hw c hc)

/-- the two attributes every root element of the three protocols starts with -/
theorem xmlns_version_ok {nsv ver : Bytes} {rest : List (Bytes × Bytes)} (hn : ValueOk nsv) (hv : ValueOk ver)
    (h : AttrsOk rest) : AttrsOk ((s "xmlns", nsv) :: (s "version", ver) :: rest) :=
  ok_cons (nameOk_s _ (by decide)) hn (ok_cons (nameOk_s _ (by decide)) hv h)

theorem toTree_reads (m : Msg) (hw : m.WF) : Reads (toTree m) (rootOf m (bodyW readBackBody m)) :=
  .node (nameOk_s _ (by decide))
    (xmlns_version_ok (valueOk_s _ (by decide)) (valueOk_s _ (by decide))
      (ok_cons (nameOk_s _ (by decide)) (by cases isQuery m <;> exact valueOk_s _ (by decide)) ok_nil))
    (body_reads m hw)

theorem lookup_nil (name : Bytes) : lookup name [] = none := rfl

theorem lookup_cons (name n v : Bytes) (rest : List (Bytes × Bytes)) :
    lookup name ((n, v) :: rest) = if n = name then some v else lookup name rest := rfl

theorem lookup_optA (name k : Bytes) (o : Option Bytes) :
    lookup name (optA k o) = if k = name then o else none := by
  cases o with
  | none => simp only [optA, lookup_nil, ite_self]
  | some v => rfl

theorem lookup_append (name : Bytes) (l1 l2 : List (Bytes × Bytes)) :
    lookup name (l1 ++ l2) = (lookup name l1).or (lookup name l2) := by
  induction l1 with
  | nil => rfl
  | cons a l1 ih =>
    obtain ⟨n, v⟩ := a
    rw [List.cons_append, lookup_cons, lookup_cons, ih]
    split <;> rfl

def ReadsBack (bt : Bytes → Option Nodes) : Prop := ∀ d, BytesOk d → readContent (bt d) = some d

theorem readContent_b64 : ReadsBack b64Body := fun c hc => by
  rw [b64Body, readContent]; exact xmlB64Decode_b64Encode c hc

theorem readContent_readBack : ReadsBack readBackBody := fun d hd => by
  unfold readBackBody
  by_cases h : d = []
  · rw [if_pos h, h, readContent]
  · rw [if_neg h]; exact readContent_b64 d hd

theorem unescapeAll_bind (u : Bytes) : (some (escapeAttr u)).bind unescapeAll = some u := by
  rw [Option.bind_some, unescape_escapeAttr]

theorem readPdu_publish (t : Option Bytes) (u c : Bytes) (body : Option Nodes)
    (hb : readContent body = some c) :
    readPdu (.elem (s "publish") [tagAttr t, (s "uri", escapeAttr u)] body) =
      some (.publish (some (t.getD [])) u c) := by
  unfold readPdu tagAttr
  simp [attrsWithin, lookup, readTag, s_inj, unescape_escapeAttr, hb]

theorem readPdu_update (t : Option Bytes) (u c h : Bytes) (body : Option Nodes)
    (hb : readContent body = some c) (hh : BytesOk h) (hl : h.length = 32) :
    readPdu (.elem (s "publish") [tagAttr t, (s "uri", escapeAttr u), (s "hash", hex h)] body) =
      some (.update (some (t.getD [])) u c h) := by
  unfold readPdu tagAttr
  simp [attrsWithin, lookup, readTag, s_inj, unescape_escapeAttr, hb, readHash_hex h hh hl]

theorem readPdu_withdraw (t : Option Bytes) (u h : Bytes) (hh : BytesOk h) (hl : h.length = 32) :
    readPdu (.elem (s "withdraw") [tagAttr t, (s "uri", escapeAttr u), (s "hash", hex h)] none) =
      some (.withdraw (some (t.getD [])) u h) := by
  unfold readPdu tagAttr
  simp [attrsWithin, lookup, readTag, s_inj, unescape_escapeAttr, readHash_hex h hh hl]

theorem readPdu_node (bt : Bytes → Option Nodes) (hbt : ReadsBack bt) (e : Pdu) (hw : e.WF) :
    readPdu (pduNodeW bt e) = some (normPdu e) := by
  cases e with
  | publish t u c => exact readPdu_publish t u c _ (hbt c hw)
  | update t u c h => exact readPdu_update t u c h _ (hbt c hw.1) hw.2.1 hw.2.2
  | withdraw t u h => exact readPdu_withdraw t u h hw.1 hw.2

theorem readListEl_listNode (e : ListEl) (hh : BytesOk e.hash) (hl : e.hash.length = 32) :
    readListEl (listNode e) = some e := by
  unfold readListEl listNode
  simp [lookup, s_inj, unescape_escapeAttr, readHash_hex e.hash hh hl]

theorem readErr_errNode (c : Nat) (hc : c < 8) : readErr (errNode c) = some c := by
  obtain ⟨_, hi, _, ht⟩ := code_facts c hc
  rw [errNode_eq, readErr]
  simp only [ne_eq, not_true_eq_false, or_self, if_false, lookup, if_true, Option.bind_some, hi]
  rw [if_pos ht]

theorem ofTree_root (ty : Bytes) (kids : List Node) :
    ofTree (.elem (s "msg") [(s "xmlns", ns), (s "version", version), (s "type", ty)]
      (some (Nodes.ofList kids))) =
    if ty = s "query" then
      (match kids with
       | [.elem n [] none] => if n = s "list" then some .listQuery else (kids.mapM readPdu).map .delta
       | _ => (kids.mapM readPdu).map .delta)
    else if ty = s "reply" then
      (match kids with
       | [.elem n [] none] => if n = s "success" then some .success else none
       | [] => some (.listReply [])
       | k :: _ =>
         (match k with
          | .elem n _ _ =>
            if n = s "list" then (kids.mapM readListEl).map .listReply else (kids.mapM readErr).map .errors
          | .text _ => none))
    else none := by
  rw [ofTree]
  simp only [ne_eq, not_true_eq_false, lookup_cons, s_inj, String.reduceEq, ↓reduceIte, or_self, Nodes.toList_ofList]
  rfl

theorem reply_ne_query : s "reply" ≠ s "query" := s_ne (by simp)

theorem ofTree_delta (bt : Bytes → Option Nodes) (hbt : ReadsBack bt) (es : List Pdu) (hw : ∀ e ∈ es, e.WF) :
    ofTree (rootOf (.delta es) (es.map (pduNodeW bt))) = some (.delta (es.map normPdu)) := by
  unfold rootOf
  simp only [isQuery, if_true]
  rw [ofTree_root, if_pos rfl,
    Lists.mapM_map_eq_some readPdu (pduNodeW bt) normPdu es fun e he => readPdu_node bt hbt e (hw e he)]
  split
  · -- a single `<list/>` would be a list query: every element of a delta carries attributes
    rename_i n heq
    cases es with
    | nil => cases heq
    | cons e rest => cases e <;> cases heq
  · rfl

theorem ofTree_listReply (es : List ListEl)
    (hw : ∀ e ∈ es, BytesOk e.hash ∧ e.hash.length = 32) :
    ofTree (rootOf (.listReply es) (es.map listNode)) = some (.listReply es) := by
  unfold rootOf
  simp only [isQuery, Bool.false_eq_true, if_false]
  rw [ofTree_root, if_neg reply_ne_query, if_pos rfl]
  have hm := Lists.mapM_map_some readListEl listNode es
    (fun e he => readListEl_listNode e (hw e he).1 (hw e he).2)
  cases es with
  | nil => rfl
  | cons e rest =>
    rw [hm]
    simp only [List.map_cons, listNode, Option.map_some, if_true]

theorem ofTree_errors (cs : List Nat) (hw : ∀ c ∈ cs, c < 8) :
    ofTree (rootOf (.errors cs) (cs.map errNode)) = some (norm (.errors cs)) := by
  unfold rootOf
  simp only [isQuery, Bool.false_eq_true, if_false]
  rw [ofTree_root, if_neg reply_ne_query, if_pos rfl]
  have hm := Lists.mapM_map_some readErr errNode cs (fun c hc => readErr_errNode c (hw c hc))
  cases cs with
  | nil => rfl
  | cons c rest =>
    rw [hm]
    simp only [List.map_cons, errNode_eq, Option.map_some,
      if_neg (s_ne (by simp) : s "report_error" ≠ s "list"), norm]

theorem ofTree_listQuery : ofTree (rootOf .listQuery [.elem (s "list") [] none]) = some .listQuery := by
  unfold rootOf
  simp only [isQuery, if_true]
  rw [ofTree_root, if_pos rfl]
  simp only [if_true]

theorem ofTree_success : ofTree (rootOf .success [.elem (s "success") [] none]) = some .success := by
  unfold rootOf
  simp only [isQuery, Bool.false_eq_true, if_false]
  rw [ofTree_root, if_neg reply_ne_query, if_pos rfl]
  simp only [if_true]

theorem ofTree_W (bt : Bytes → Option Nodes) (hbt : ReadsBack bt) (m : Msg) (hw : m.WF) :
    ofTree (rootOf m (bodyW bt m)) = some (norm m) := by
  cases m with
  | listQuery => exact ofTree_listQuery
  | success => exact ofTree_success
  | delta es => exact ofTree_delta bt hbt es hw
  | listReply es => exact ofTree_listReply es hw
  | errors cs => exact ofTree_errors cs hw

theorem read_write (m : Msg) (hw : m.WF) : read (write m) = some (norm m) :=
  read_write_of toTree_reads (ofTree_W readBackBody readContent_readBack) m hw

theorem write_injective_any (a b : Msg) (ha : a.WF) (hb : b.WF) (h : write a = write b) :
    norm a = norm b := inj_of_read read_write a b ha hb h

theorem write_injective (a b : Msg) (ha : a.WF) (hb : b.WF) (hpa : a.Plain) (hpb : b.Plain)
    (h : write a = write b) : norm a = norm b := write_injective_any a b ha hb h

def sampleDelta : Msg :=
  .delta [.publish none [97] [], .update (some [60, 34]) [98, 38] [1, 2, 3] (List.replicate 32 7),
    .withdraw none [99] (List.replicate 32 255)]

theorem sampleDelta_WF : sampleDelta.WF := by
  intro e he
  simp only [List.mem_cons, List.not_mem_nil, or_false] at he
  rcases he with rfl | rfl | rfl
  · intro x hx; cases hx
  · exact ⟨by unfold BytesOk; decide, by unfold BytesOk; decide, by decide⟩
  · exact ⟨by unfold BytesOk; decide, by decide⟩

/-- the hypotheses are satisfiable, also with an empty object -/
example : read (write sampleDelta) = some (norm sampleDelta) := read_write _ sampleDelta_WF
example : read (write (.errors [0, 3, 7])) = some (.errors [0, 3, 7]) :=
  read_write _ (by intro c hc; simp only [List.mem_cons, List.not_mem_nil, or_false] at hc; omega)

/-- why the written tree is well-formed only without empty objects (`C11.publication_tree_wf`): the text line of an empty
object is empty -/
theorem plain_needed : ¬ (toTree (.delta [.publish none [] []])).WF := by
  intro h
  rw [toTree_eq, rootOf, Node.WF_elem] at h
  have h1 := h.2.2
  simp only [body, List.map_cons, List.map_nil, Nodes.ofList, pduNode] at h1
  rw [Nodes.WF_cons, Node.WF_elem] at h1
  have h2 := h1.1.2.2
  simp only at h2
  rw [Nodes.WF_cons, Node.WF_text] at h2
  exact h2.1.1 rfl

/-- why `Msg.WF` bounds the codes: any index from 8 on is written as `other_error` -/
theorem code_bound_needed : write (.errors [8]) = write (.errors [7]) := rfl

end Rpki.PubMsg

