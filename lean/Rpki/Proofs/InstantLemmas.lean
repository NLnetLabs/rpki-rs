/-
  The instant of a civil time (`Rpki/Model/Instant.lean`): calendar order is the order of instants;
  `Time::years_from_date` names a real calendar time (`yearsFromDate_valid`).
-/
import Rpki.Model.Instant
import Rpki.Proofs.X509Time
namespace Rpki.X509

theorem leapsBefore_succ (y : Nat) :
    leapsBefore (y + 1) = leapsBefore y + (if isLeap y then 1 else 0) := by
  have h4 : (y + 1 + 3) / 4 = (y + 3) / 4 + if y % 4 = 0 then 1 else 0 :=
    Arith.ceilDiv_succ y 4 (by decide)
  have h100 : (y + 1 + 99) / 100 = (y + 99) / 100 + if y % 100 = 0 then 1 else 0 :=
    Arith.ceilDiv_succ y 100 (by decide)
  have h400 : (y + 1 + 399) / 400 = (y + 399) / 400 + if y % 400 = 0 then 1 else 0 :=
    Arith.ceilDiv_succ y 400 (by decide)
  have hc : (y + 99) / 100 ≤ (y + 3) / 4 := by omega
  -- of the three ceilings that move, the leap day is what is left: the four ways `y` can stand to
  -- 4, 100 and 400
  have hL : (if isLeap y then 1 else 0) + (if y % 100 = 0 then 1 else 0) =
      (if y % 4 = 0 then 1 else 0) + (if y % 400 = 0 then 1 else 0) := by
    by_cases e400 : y % 400 = 0
    · have e100 : y % 100 = 0 := Arith.mod_eq_zero_of_dvd (by decide) e400
      have e4 : y % 4 = 0 := Arith.mod_eq_zero_of_dvd (by decide) e100
      rw [if_pos e4, if_pos e100, if_pos e400, if_pos ((isLeap_iff y).2 (.inr e400))]
    · by_cases e100 : y % 100 = 0
      · have e4 : y % 4 = 0 := Arith.mod_eq_zero_of_dvd (by decide) e100
        rw [if_pos e4, if_pos e100, if_neg e400,
          if_neg fun h => ((isLeap_iff y).1 h).elim (fun h => h.2 e100) e400]
      · by_cases e4 : y % 4 = 0
        · rw [if_pos e4, if_neg e100, if_neg e400, if_pos ((isLeap_iff y).2 (.inl ⟨e4, e100⟩))]
        · rw [if_neg e4, if_neg e100, if_neg e400,
            if_neg fun h => ((isLeap_iff y).1 h).elim (fun h => e4 h.1) e400]
  unfold leapsBefore
  rw [h4, h100, h400, Nat.add_add_add_comm, ← hL, ← Nat.add_assoc, Nat.add_sub_add_right,
    Nat.sub_add_comm (Nat.le_trans hc (Nat.le_add_right _ _))]

def yearLen (y : Nat) : Nat := 365 + (if isLeap y then 1 else 0)

theorem daysBeforeYear_succ (y : Nat) :
    daysBeforeYear (y + 1) = daysBeforeYear y + 365 + (if isLeap y then 1 else 0) := by
  unfold daysBeforeYear
  rw [leapsBefore_succ]
  omega

theorem daysBeforeYear_mono {a b : Nat} (h : a ≤ b) : daysBeforeYear a ≤ daysBeforeYear b := by
  induction h with
  | refl => exact Nat.le_refl _
  | step _ ih => rw [daysBeforeYear_succ]; omega

theorem daysBeforeMonth_succ (y m : Nat) (h2 : m < 12) (h1 : 1 ≤ m) :
    daysBeforeMonth y (m + 1) = daysBeforeMonth y m + daysIn y m := by
  unfold daysBeforeMonth daysIn
  generalize isLeap y = leap
  revert m
  cases leap <;> decide

theorem daysBeforeMonth_mono (y : Nat) {m n : Nat} (h1 : 1 ≤ m) (h : m ≤ n) (h2 : n ≤ 12) :
    daysBeforeMonth y m ≤ daysBeforeMonth y n := by
  induction h with
  | refl => exact Nat.le_refl _
  | @step k hk ih =>
    rw [daysBeforeMonth_succ y k h2 (Nat.le_trans h1 hk)]
    exact Nat.le_trans (ih (Nat.le_of_succ_le h2)) (Nat.le_add_right _ _)

theorem month_lt (y m n : Nat) (h1 : 1 ≤ m) (h : m < n) (h2 : n ≤ 12) :
    daysBeforeMonth y m + daysIn y m ≤ daysBeforeMonth y n := by
  rw [← daysBeforeMonth_succ y m (Nat.lt_of_lt_of_le h h2) h1]
  exact daysBeforeMonth_mono y (Nat.le_add_left 1 m) h h2

theorem month_end (y m : Nat) (h1 : 1 ≤ m) (h2 : m ≤ 12) :
    daysBeforeMonth y m + daysIn y m ≤ yearLen y := by
  have h12 : daysBeforeMonth y 12 + daysIn y 12 = yearLen y := by
    unfold daysBeforeMonth daysIn yearLen
    generalize isLeap y = leap
    cases leap <;> rfl
  rcases Nat.lt_or_eq_of_le h2 with h | rfl
  · have := month_lt y m 12 h1 h (Nat.le_refl _)
    omega
  · exact Nat.le_of_eq h12

theorem dayNumber_lt (c : Civil) (h : validCivil c = true) :
    dayNumber c < daysBeforeYear c.y + yearLen c.y := by
  obtain ⟨h1, h2, h3, h4, -⟩ := validCivil_iff.1 h
  unfold dayNumber
  rw [Nat.add_assoc]
  exact Nat.add_lt_add_left (Nat.lt_of_lt_of_le
    (Nat.add_lt_add_left (Nat.lt_of_lt_of_le (Nat.sub_lt h3 Nat.one_pos) h4) _) (month_end c.y c.m h1 h2)) _

theorem compare_secsOf (a b : Civil) (ha : validCivil a = true) (hb : validCivil b = true) :
    compare (secsOf a) (secsOf b) = (compare (dayNumber a) (dayNumber b)).then
      ((compare a.h b.h).then ((compare a.mi b.mi).then (compare a.s b.s))) := by
  obtain ⟨-, -, -, -, a5, a6, a7⟩ := validCivil_iff.1 ha
  obtain ⟨-, -, -, -, b5, b6, b7⟩ := validCivil_iff.1 hb
  have horner : ∀ c : Civil, secsOf c = ((dayNumber c * 24 + c.h) * 60 + c.mi) * 60 + c.s := by
    intro c; unfold secsOf; omega
  rw [horner a, horner b, Arith.compare_mul_add a7 b7, Arith.compare_mul_add a6 b6,
    Arith.compare_mul_add a5 b5, Ordering.then_assoc, Ordering.then_assoc]

theorem secsOf_lt (a b : Civil) (ha : validCivil a = true) (hb : validCivil b = true) (h : civilLt a b) :
    secsOf a < secsOf b := by
  obtain ⟨a1, -, a3, a4, -⟩ := validCivil_iff.1 ha
  obtain ⟨-, b2, -⟩ := validCivil_iff.1 hb
  rw [← Nat.compare_eq_lt, compare_secsOf a b ha hb, Ordering.then_eq_lt, Ordering.then_eq_lt,
    Ordering.then_eq_lt, Nat.compare_eq_lt, Nat.compare_eq_lt, Nat.compare_eq_lt, Nat.compare_eq_lt,
    Nat.compare_eq_eq, Nat.compare_eq_eq, Nat.compare_eq_eq]
  rcases h with hy | ⟨ey, hm | ⟨em, hd | ⟨ed, ht⟩⟩⟩
  · left
    calc dayNumber a < daysBeforeYear a.y + yearLen a.y := dayNumber_lt a ha
      _ = daysBeforeYear (a.y + 1) := by rw [daysBeforeYear_succ, yearLen, Nat.add_assoc]
      _ ≤ daysBeforeYear b.y := daysBeforeYear_mono hy
      _ ≤ dayNumber b := Nat.le_trans (Nat.le_add_right _ _) (Nat.le_add_right _ _)
  · left
    unfold dayNumber
    rw [← ey, Nat.add_assoc, Nat.add_assoc]
    -- the day lies in its month, and that month ends before the later one begins
    exact Nat.add_lt_add_left (Nat.lt_of_lt_of_le (Nat.add_lt_add_left
      (Nat.lt_of_lt_of_le (Nat.sub_lt a3 Nat.one_pos) a4) _)
      (Nat.le_trans (month_lt a.y a.m b.m a1 hm b2) (Nat.le_add_right _ _))) _
  · left
    unfold dayNumber
    rw [← ey, ← em]
    exact Nat.add_lt_add_left (Nat.sub_lt_sub_right a3 hd) _
  · right
    exact ⟨by unfold dayNumber; rw [ey, em, ed], ht⟩
theorem civil_trichotomy (a b : Civil) : civilLt a b ∨ a = b ∨ civilLt b a := by
  obtain ⟨ay, am, ad, ah, ami, as⟩ := a
  obtain ⟨by', bm, bd, bh, bmi, bs⟩ := b
  rw [Civil.mk.injEq]
  exact Arith.lex_trichotomy (Arith.lex_trichotomy (Arith.lex_trichotomy (Arith.lex_trichotomy
    (Arith.lex_trichotomy (Nat.lt_trichotomy as bs)))))

theorem secsOf_injective (a b : Civil) (ha : validCivil a = true) (hb : validCivil b = true)
    (h : secsOf a = secsOf b) : a = b := by
  rcases civil_trichotomy a b with h1 | h1 | h1
  · exact absurd h (Nat.ne_of_lt (secsOf_lt a b ha hb h1))
  · exact h1
  · exact absurd h (Nat.ne_of_gt (secsOf_lt b a hb ha h1))

theorem secsOf_lt_iff (a b : Civil) (ha : validCivil a = true) (hb : validCivil b = true) :
    secsOf a < secsOf b ↔ civilLt a b := by
  refine ⟨fun h => ?_, secsOf_lt a b ha hb⟩
  rcases civil_trichotomy a b with h1 | rfl | h1
  · exact h1
  · exact absurd h (Nat.lt_irrefl _)
  · exact absurd h (Nat.lt_asymm (secsOf_lt b a hb ha h1))

/-- `Time::years_from_date` names a real calendar time whenever its argument does (so the `Time::utc`
it ends in cannot fail on the date): the only day that does not exist in every year is moved. -/
theorem yearsFromDate_valid (years : Int) (c : Civil) (h : validCivil c = true) :
    validCivil (yearsFromDate years c) = true := by
  obtain ⟨h1, h2, h3, h4, h5, h6, h7⟩ := validCivil_iff.1 h
  have hs : min c.s 59 < 60 := Nat.lt_of_le_of_lt (Nat.min_le_right _ _) (by decide)
  have hd : 1 ≤ (if c.d = 29 ∧ c.m = 2 then 28 else c.d) ∧
      (if c.d = 29 ∧ c.m = 2 then 28 else c.d) ≤ daysIn (((c.y : Int) + years).toNat) c.m := by
    by_cases hleap : c.d = 29 ∧ c.m = 2
    · rw [if_pos hleap, hleap.2]
      exact ⟨by decide, (daysIn_feb _).1⟩
    · rw [if_neg hleap]
      refine ⟨h3, ?_⟩
      by_cases hm : c.m = 2
      · have : c.d ≠ 29 := fun e => hleap ⟨e, hm⟩
        rw [hm] at h4 ⊢
        have := (daysIn_feb c.y).2
        have := (daysIn_feb (((c.y : Int) + years).toNat)).1
        omega
      · rw [daysIn_other c.y _ c.m hm]; exact h4
  exact validCivil_iff.2 ⟨h1, h2, hd.1, hd.2, h5, h6, hs⟩

end Rpki.X509
