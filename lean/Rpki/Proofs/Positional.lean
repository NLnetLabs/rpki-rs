/-
  Positional notation: the value of a list of base-`b` digits, most significant first (`ofDigits`), and the
  `w` digits of a number (`digitsBE`).  The two- and four-digit fields of X.509 times, the 20-octet serial numbers
  and the eight groups of an IPv6 address are read and written through them.
-/
import Rpki.Proofs.NatLemmas
namespace Rpki.Arith

def ofDigits (b : Nat) (ds : List Nat) : Nat := ds.foldl (fun v d => v * b + d) 0

/-- the `w` base-`b` digits of `n`, most significant first (of `n % b ^ w`, when `n` is larger) -/
def digitsBE (b w n : Nat) : List Nat := (List.range w).map fun i => n / b ^ (w - 1 - i) % b

theorem foldl_digits (b : Nat) : ∀ (ds : List Nat) (acc : Nat),
    ds.foldl (fun v d => v * b + d) acc = acc * b ^ ds.length + ofDigits b ds := by
  intro ds
  induction ds with
  | nil => intro acc; exact (Nat.mul_one acc).symm
  | cons d ds ih =>
    intro acc
    rw [ofDigits, List.foldl_cons, List.foldl_cons, ih, ih (0 * b + d), List.length_cons, Nat.pow_succ,
      Nat.zero_mul, Nat.zero_add, Nat.add_mul, Nat.mul_assoc, Nat.mul_comm b, Nat.add_assoc]

theorem ofDigits_append (b : Nat) (xs ys : List Nat) :
    ofDigits b (xs ++ ys) = ofDigits b xs * b ^ ys.length + ofDigits b ys := by
  rw [ofDigits, List.foldl_append, foldl_digits]
  rfl

theorem ofDigits_cons (b d : Nat) (ds : List Nat) : ofDigits b (d :: ds) = d * b ^ ds.length + ofDigits b ds := by
  have := ofDigits_append b [d] ds
  rwa [show ofDigits b [d] = d from (congrArg (· + d) (Nat.zero_mul b)).trans (Nat.zero_add d)] at this

theorem ofDigits_concat (b d : Nat) (ds : List Nat) : ofDigits b (ds ++ [d]) = ofDigits b ds * b + d := by
  rw [ofDigits, List.foldl_append]
  rfl

theorem ofDigits_lt {b : Nat} : ∀ {ds : List Nat}, (∀ d ∈ ds, d < b) → ofDigits b ds < b ^ ds.length
  | [], _ => Nat.one_pos
  | d :: ds, h => by
    rw [ofDigits_cons, List.length_cons, Nat.pow_succ, Nat.mul_comm _ b]
    exact mul_add_lt (h d List.mem_cons_self) (ofDigits_lt fun x hx => h x (List.mem_cons_of_mem _ hx))

theorem compare_ofDigits_cons {b x y : Nat} {xs ys : List Nat} (hl : xs.length = ys.length)
    (hx : ∀ d ∈ xs, d < b) (hy : ∀ d ∈ ys, d < b) :
    compare (ofDigits b (x :: xs)) (ofDigits b (y :: ys)) =
      (compare x y).then (compare (ofDigits b xs) (ofDigits b ys)) := by
  rw [ofDigits_cons, ofDigits_cons, hl]
  exact compare_mul_add (hl ▸ ofDigits_lt hx) (ofDigits_lt hy)

theorem ofDigits_inj {b : Nat} : ∀ {xs ys : List Nat}, xs.length = ys.length → (∀ d ∈ xs, d < b) →
    (∀ d ∈ ys, d < b) → ofDigits b xs = ofDigits b ys → xs = ys
  | [], ys, hl, _, _, _ => (List.length_eq_zero_iff.1 hl.symm).symm
  | _ :: _, [], hl, _, _, _ => nomatch hl
  | x :: xs, y :: ys, hl, hx, hy, h => by
    have hl := Nat.succ.inj hl
    have hx' := fun d hd => hx d (List.mem_cons_of_mem _ hd)
    have hy' := fun d hd => hy d (List.mem_cons_of_mem _ hd)
    have h := Nat.compare_eq_eq.2 h
    rw [compare_ofDigits_cons hl hx' hy', Ordering.then_eq_eq, Nat.compare_eq_eq, Nat.compare_eq_eq] at h
    rw [h.1, ofDigits_inj hl hx' hy' h.2]

theorem digitsBE_length (b w n : Nat) : (digitsBE b w n).length = w := by
  rw [digitsBE, List.length_map, List.length_range]

theorem digitsBE_lt {b : Nat} (hb : 0 < b) (w n : Nat) : ∀ d ∈ digitsBE b w n, d < b := by
  intro d hd
  obtain ⟨i, _, rfl⟩ := List.mem_map.1 hd
  exact Nat.mod_lt _ hb

theorem digitsBE_succ (b w n : Nat) : digitsBE b (w + 1) n = digitsBE b w (n / b) ++ [n % b] := by
  rw [digitsBE, digitsBE, List.range_succ, List.map_append, List.map_singleton, Nat.add_sub_cancel, Nat.sub_self,
    Nat.pow_zero, Nat.div_one]
  refine congrArg (· ++ _) (List.map_congr_left fun i hi => ?_)
  have hi := List.mem_range.1 hi
  rw [Nat.div_div_eq_div_mul, ← Nat.pow_succ', show w - i = w - 1 - i + 1 by omega]

theorem ofDigits_digitsBE (b n : Nat) : ∀ w, ofDigits b (digitsBE b w n) = n % b ^ w := by
  intro w
  induction w generalizing n with
  | zero => rw [Nat.pow_zero, Nat.mod_one]; rfl
  | succ w ih => rw [digitsBE_succ, ofDigits_concat, ih, Nat.pow_succ', Nat.mod_mul, Nat.add_comm, Nat.mul_comm]

theorem ofDigits_digitsBE_lt {b w n : Nat} (h : n < b ^ w) : ofDigits b (digitsBE b w n) = n :=
  (ofDigits_digitsBE b n w).trans (Nat.mod_eq_of_lt h)

theorem digitsBE_ofDigits {b : Nat} (hb : 0 < b) {ds : List Nat} (h : ∀ d ∈ ds, d < b) :
    digitsBE b ds.length (ofDigits b ds) = ds :=
  ofDigits_inj (digitsBE_length _ _ _) (digitsBE_lt hb _ _) h (ofDigits_digitsBE_lt (ofDigits_lt h))

end Rpki.Arith
