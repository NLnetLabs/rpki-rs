/-
  The IPv4 side of the IP resources codec: blocks whose bounds are aligned to the low 96 bits (IPv4
  addresses live in the upper 32 bits of the 128-bit representation) are written with prefix lengths of at
  most 32 bits, so the loop of the IPv4 family (`W = 32`) reads back the blocks `IpBlock::encode` writes one after another.
-/
import Rpki.Proofs.IpDerCodec
namespace Rpki.IpDer
open Rpki.Der Rpki.Chain

/-- a block of IPv4 addresses; `ResText.V4Shaped` asks the same of a block of the text form (prefix or range), together
with its being well formed -/
def V4Shaped (b : Blk) : Prop := b.lo % 2 ^ 96 = 0 ∧ b.hi % 2 ^ 96 = 2 ^ 96 - 1

theorem takeOptBlock32_encodeBlock (b : Blk) (hb : b.lo ≤ b.hi) (hhi : b.hi ≤ maxAddr) (hs : V4Shaped b)
    (rest : Bytes) : takeOptBlock 32 (encodeBlock b ++ rest) = .ok b rest := by
  refine takeOptBlock_encodeBlock_of 32 b hb hhi ⟨fun len hip => ?_, fun _ => ?_⟩ rest
  · obtain ⟨-, hh⟩ := intoPrefix_sound 128 b.lo b.hi len hip
    have h1 : 2 ^ 96 ∣ b.hi + 1 := Nat.dvd_of_mod_eq_zero (by rw [Nat.add_mod, hs.2]; rfl)
    rw [hh, Nat.sub_add_cancel (Nat.le_add_left_of_le (Nat.two_pow_pos _)),
      Nat.dvd_add_right (Nat.dvd_of_mod_eq_zero hs.1),
      Nat.pow_dvd_pow_iff_le_right (by decide : 1 < 2)] at h1
    omega
  · have t1 : 96 ≤ tz b.lo := (trailingZeros_ge (by decide)).2 hs.1
    have t2 : 96 ≤ to1 b.hi := (trailingOnesAux_ge 128 96 b.hi (by decide)).2 hs.2
    omega

theorem blocksLoop32_encode (c : List Blk) (fuel : Nat) (hf : c.length ≤ fuel)
    (hv : ∀ b ∈ c, b.lo ≤ b.hi ∧ b.hi ≤ maxAddr) (hs : ∀ b ∈ c, V4Shaped b) :
    blocksLoop 32 fuel ((c.map encodeBlock).flatten) = some c :=
  blocksLoop_eq 32 ▸ itemsLoop_flatten _ _ (takeOptBlock_nil 32) c fuel hf fun b hb =>
    takeOptBlock32_encodeBlock b (hv b hb).1 (hv b hb).2 (hs b hb)

end Rpki.IpDer
