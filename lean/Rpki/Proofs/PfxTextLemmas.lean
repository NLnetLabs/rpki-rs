/-
  Text forms of prefixes and max-length prefixes (`Rpki/Model/PfxText.lean`): what `Display` writes for a
  prefix as the constructors make it (`PfxWF`), `FromStr` reads back as the same value — strict and relaxed.
-/
import Rpki.Model.PfxText
import Rpki.Proofs.PrefixLemmas
import Rpki.Proofs.ResTextSets
namespace Rpki.PfxText
open Rpki.Prefix Rpki.ResText

theorem parseV4_colon (b : Bytes) (h : 58 ∈ b) : parseV4 b = none := by
  unfold parseV4
  obtain ⟨p, hp, hcp⟩ := splitOn_mem 46 58 (by decide) b [] h
  rw [Lists.mapM_none_of_mem parseOctet _ p hp (parseOctet_colon p hcp)]

theorem parseIpAddr_fmt (v4 : Bool) (bits : Nat) (hb : bits < 2 ^ 128) :
    parseIpAddr (fmtAddr v4 bits) = some (if v4 then (true, bits / 2 ^ 96) else (false, bits)) := by
  unfold parseIpAddr fmtAddr
  cases v4 with
  | true =>
    simp only [if_true, parseV4_fmtV4 (bits / 2 ^ 96) (by omega)]
  | false =>
    simp only [Bool.false_eq_true, if_false, parseV4_colon _ (fmtV6_has_colon bits), parseV6_fmtV6 bits hb,
      Option.map_some]

/-- A prefix as the constructors make it, said through the constructors' own `falV4` / `falV6`, which is the form
the text round trip needs. `Prefix.WF` (`Model/Prefix.lean`) describes the same values by the ranges of the
family-and-length octet, the form the order and `covers` theorems use; no theorem ties the two. -/
def PfxWF (p : Pfx) : Prop :=
  p.bits < 2 ^ 128 ∧ p.bits % 2 ^ (128 - p.len) = 0 ∧ p.len < 256 ∧
  (p.isV4 = true → falV4 p.len = some p.fal) ∧ (p.isV4 = false → falV6 p.len = some p.fal)

theorem parsePfx_fmt_pfxNew (relaxed : Bool) (p : Pfx) (hb : p.bits < 2 ^ 128) (hl : p.len < 256) :
    parsePfx relaxed (fmtPfx p) =
      (match pfxNew relaxed (if p.isV4 then (true, p.bits / 2 ^ 96) else (false, p.bits)) p.len with
       | .ok q => .ok q
       | .error e => .error (.invalidPrefix e)) := by
  unfold parsePfx fmtPfx
  have hne : ¬ (fmtAddr p.isV4 p.bits ++ 47 :: decimal p.len = []) := by simp
  simp only [hne, if_false]
  rw [findSep_some 47 _ _ (fun c hc => (fmtAddr_chars _ _ c hc).2)]
  simp only [List.take_left, drop_sep, parseIpAddr_fmt _ _ hb, parseLen_decimal p.len (by omega)]
  cases pfxNew relaxed (if p.isV4 = true then (true, p.bits / 2 ^ 96) else (false, p.bits)) p.len <;> rfl

theorem parsePfx_fmt (relaxed : Bool) (p : Pfx) (h : PfxWF p) : parsePfx relaxed (fmtPfx p) = .ok p := by
  obtain ⟨hb, hz, hl, h4, h6⟩ := h
  rw [parsePfx_fmt_pfxNew relaxed p hb hl]
  obtain ⟨pf, pb⟩ := p
  cases hv : (Pfx.isV4 ⟨pf, pb⟩) with
  | true =>
    have hf := h4 hv
    have hlen : Pfx.len ⟨pf, pb⟩ ≤ 32 := by
      rcases falV4_cases (len := Pfx.len ⟨pf, pb⟩) with ⟨_, e⟩ | ⟨_, _, h, _⟩
      · cases e.symm.trans hf
      · exact h
    have h96 : pb / 2 ^ 96 * 2 ^ 96 = pb := by
      apply aligned_div_mul
      have hd : (2 : Nat) ^ 96 ∣ 2 ^ (128 - Pfx.len ⟨pf, pb⟩) := Nat.pow_dvd_pow 2 (by omega)
      exact Arith.mod_eq_zero_of_dvd hd hz
    simp only [if_true]
    cases relaxed with
    | false =>
      simp only [pfxNew, newV4, hf, fromV4, h96]
      rw [ite_isHostZero, if_pos hz]
    | true =>
      simp only [pfxNew, newV4Relaxed, hf, fromV4, h96]
      rw [clearHost_aligned pb _ hb hz]
  | false =>
    have hf := h6 hv
    simp only [Bool.false_eq_true, if_false]
    cases relaxed with
    | false =>
      simp only [pfxNew, newV6, hf]
      rw [ite_isHostZero, if_pos hz]
    | true =>
      simp only [pfxNew, newV6Relaxed, hf]
      rw [clearHost_aligned pb _ hb hz]

theorem wf_of_fal {fal len bits : Nat} {v4 : Bool} (h1 : falIsV4 fal = v4) (h2 : falLen fal = len) (hl : len < 256)
    (h4 : v4 = true → falV4 len = some fal) (h6 : v4 = false → falV6 len = some fal)
    (hb : bits < 2 ^ 128) (hz : bits % 2 ^ (128 - len) = 0) : PfxWF ⟨fal, bits⟩ := by
  subst h2
  exact ⟨hb, hz, hl, fun h => h4 (h1.symm.trans h), fun h => h6 (h1.symm.trans h)⟩

theorem wf_of_newV4 (a len : Nat) (p : Pfx) (ha : a < 2 ^ 32)
    (h : newV4 a len = .ok p) : PfxWF p := by
  unfold newV4 at h
  rcases falV4_cases (len := len) with ⟨_, e⟩ | ⟨f, e, hle, h1, h2⟩ <;> rw [e] at h
  · cases h
  · dsimp only at h
    rw [ite_isHostZero] at h
    by_cases hz : fromV4 a % 2 ^ (128 - len) = 0
    · rw [if_pos hz] at h
      cases h
      exact wf_of_fal h1 h2 (Nat.lt_of_le_of_lt hle (by decide)) (fun _ => e) nofun (by unfold fromV4; omega) hz
    · rw [if_neg hz] at h
      cases h

theorem wf_of_newV4Relaxed (a len : Nat) (p : Pfx) (ha : a < 2 ^ 32)
    (h : newV4Relaxed a len = .ok p) : PfxWF p := by
  unfold newV4Relaxed at h
  rcases falV4_cases (len := len) with ⟨_, e⟩ | ⟨f, e, hle, h1, h2⟩ <;> rw [e] at h
  · cases h
  · cases h
    have := clearHost_facts (fromV4 a) len (by unfold fromV4; omega)
    exact wf_of_fal h1 h2 (Nat.lt_of_le_of_lt hle (by decide)) (fun _ => e) nofun this.1 this.2

theorem wf_of_newV6 (a len : Nat) (p : Pfx) (ha : a < 2 ^ 128)
    (h : newV6 a len = .ok p) : PfxWF p := by
  unfold newV6 at h
  rcases falV6_cases (len := len) with ⟨_, e⟩ | ⟨f, e, hle, h1, h2⟩ <;> rw [e] at h
  · cases h
  · dsimp only at h
    rw [ite_isHostZero] at h
    by_cases hz : a % 2 ^ (128 - len) = 0
    · rw [if_pos hz] at h
      cases h
      exact wf_of_fal h1 h2 (Nat.lt_of_le_of_lt hle (by decide)) nofun (fun _ => e) ha hz
    · rw [if_neg hz] at h
      cases h

theorem wf_of_newV6Relaxed (a len : Nat) (p : Pfx) (ha : a < 2 ^ 128)
    (h : newV6Relaxed a len = .ok p) : PfxWF p := by
  unfold newV6Relaxed at h
  rcases falV6_cases (len := len) with ⟨_, e⟩ | ⟨f, e, hle, h1, h2⟩ <;> rw [e] at h
  · cases h
  · cases h
    have := clearHost_facts a len ha
    exact wf_of_fal h1 h2 (Nat.lt_of_le_of_lt hle (by decide)) nofun (fun _ => e) this.1 this.2

theorem fmtPfx_chars (p : Pfx) : ∀ c ∈ fmtPfx p, c ≠ 45 := by
  intro c hc
  unfold fmtPfx at hc
  simp only [List.mem_append, List.mem_cons] at hc
  rcases hc with hc | rfl | hc
  · have := fmtAddr_chars _ _ c hc; omega
  · decide
  · have := (decimal_digits _).2 c hc; omega

theorem parseMlp_fmt (m : Mlp) (hp : PfxWF m.pfx) (hm : mlpNew m.pfx m.ml = .ok m) :
    parseMlp (fmtMlp m) = .ok m := by
  obtain ⟨p, ml⟩ := m
  unfold parseMlp fmtMlp
  cases ml with
  | none =>
    simp only [List.append_nil]
    rw [findSep_none 45 _ (fmtPfx_chars p)]
    simp only [parsePfx_fmt false p hp]
    simp only at hm
    rw [hm]
  | some k =>
    simp only
    rw [findSep_some 45 _ _ (fmtPfx_chars p)]
    have hk : k ≤ 255 := by
      simp only [mlpNew] at hm
      by_cases hov : (p.isV4 = true ∧ k > 32) ∨ k > 128
      · simp [hov] at hm
      · omega
    simp only [List.take_left, drop_sep, parsePfx_fmt false p hp, parseLen_decimal k hk]
    simp only at hm
    rw [hm]

end Rpki.PfxText
