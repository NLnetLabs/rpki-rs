/-
  Manifest file names: what `validate_file_name` accepts (`validName_iff'`, which `Props/C14` takes over without the
  prime), and that `join` puts such a name directly under the base URI.  The two passes over the file list: the counting
  closure (`skip_opt_in`) and the reading closure (`take_opt_from`) decide alike on every input, so the iterator yields
  as many entries as were counted and cannot fail; `content_facts` collects what accepted content octets guarantee.
-/
import Rpki.Model.Manifest
import Rpki.Proofs.DerLemmas
import Rpki.Proofs.UriRsync
namespace Rpki.Manifest
open Rpki.Der

theorem validChar_iff (c : Nat) : validChar c = true ↔
    c = 45 ∨ c = 95 ∨ ((65 ≤ c ∧ c ≤ 90) ∨ (97 ≤ c ∧ c ≤ 122)) ∨ (48 ≤ c ∧ c ≤ 57) := by
  simp only [validChar, isAlnum, isAlpha, Bool.or_eq_true, Bool.and_eq_true, decide_eq_true_eq, or_assoc]

theorem isAlpha_validChar {c : Nat} (h : isAlpha c = true) : validChar c = true := by
  simp only [validChar, isAlnum, h, Bool.true_or, Bool.or_true]

theorem validChar_ne {c k : Nat} (h : validChar c = true) (hk : validChar k = false := by decide) : c ≠ k :=
  fun e => Bool.noConfusion ((e ▸ h).symm.trans hk)

theorem validChar_lt {c : Nat} (h : validChar c = true) : c < 128 := by
  have := (validChar_iff c).1 h
  omega

theorem scanStem_sound (n r : Bytes) (h : scanStem n = some r) :
    (∃ stem, n = stem ++ 46 :: r ∧ stem.all validChar = true) ∨ (r = [] ∧ n.all validChar = true) := by
  fun_induction scanStem n <;> try (cases h; done)
  · cases h; exact Or.inr ⟨rfl, rfl⟩
  · cases h; exact Or.inl ⟨[], rfl, rfl⟩
  · rename_i c _ _ hv ih
    have hv : validChar c = true := by simpa using hv
    rcases ih h with ⟨stem, e, hs⟩ | ⟨e, hs⟩
    · exact Or.inl ⟨_ :: stem, by rw [e]; rfl, by rw [List.all_cons, hv, hs]; rfl⟩
    · exact Or.inr ⟨e, by rw [List.all_cons, hv, hs]; rfl⟩

theorem scanStem_complete : ∀ (stem r : Bytes), stem.all validChar = true →
    scanStem (stem ++ 46 :: r) = some r := by
  intro stem
  induction stem with
  | nil => intro r _; simp [scanStem]
  | cons c t ih =>
    intro r h
    simp only [List.all_cons, Bool.and_eq_true] at h
    have hc : c ≠ 46 := validChar_ne h.1
    simp only [List.cons_append, scanStem, hc, if_false, h.1, Bool.not_true, Bool.false_eq_true]
    exact ih r h.2

theorem validName_iff' (n : Bytes) :
    validName n = true ↔ ∃ stem ext, n = stem ++ 46 :: ext ∧ stem.all validChar = true ∧
      ext.length = 3 ∧ ext.all isAlpha = true := by
  constructor
  · intro h
    unfold validName at h
    cases hs : scanStem n with
    | none => simp [hs] at h
    | some r =>
      simp only [hs, Bool.and_eq_true, decide_eq_true_eq] at h
      have hl : r.length = 3 := by simpa [Rpki.Consts.mftExtLen] using h.1
      rcases scanStem_sound n r hs with ⟨stem, e, hst⟩ | ⟨e, _⟩
      · exact ⟨stem, r, e, hst, hl, h.2⟩
      · subst e; simp at hl
  · rintro ⟨stem, ext, e, hs, hl, ha⟩
    unfold validName
    rw [e, scanStem_complete stem ext hs]
    simp [Rpki.Consts.mftExtLen, hl, ha]

theorem validName_all {n : Bytes} (h : validName n = true) (P : Nat → Prop) (hv : ∀ c, validChar c = true → P c)
    (hd : P 46) : ∀ x ∈ n, P x := by
  obtain ⟨stem, ext, rfl, hs, _, ha⟩ := (validName_iff' n).1 h
  intro x hx
  rcases List.mem_append.1 hx with hx | hx
  · exact hv x (List.all_eq_true.1 hs _ hx)
  · rcases List.mem_cons.1 hx with rfl | hx
    · exact hd
    · exact hv x (isAlpha_validChar (List.all_eq_true.1 ha _ hx))

theorem validName_noslash {n : Bytes} (h : validName n = true) : 47 ∉ n :=
  fun hm => validName_all h (· ≠ 47) (fun _ h => validChar_ne h) (by decide) 47 hm rfl

theorem validName_ascii {n : Bytes} (h : validName n = true) : n.all (· < 128) = true :=
  List.all_eq_true.2 fun x hx =>
    decide_eq_true (validName_all h (· < 128) (fun _ => validChar_lt) (by decide) x hx)

theorem validName_length {n : Bytes} (h : validName n = true) : 4 ≤ n.length := by
  obtain ⟨stem, ext, e, _, hl, _⟩ := (validName_iff' n).1 h
  subst e; simp; omega

theorem validChar_uri {c : Nat} (h : validChar c = true) : Uri.isUriAscii c = true := by
  rw [Uri.isUriAscii_iff]
  rcases (validChar_iff c).1 h with rfl | rfl | (h | h) | h
  · decide
  · decide
  · exact Or.inr (Or.inr (Or.inr (Or.inl h)))
  · exact Or.inr (Or.inr (Or.inr (Or.inr (Or.inr (Or.inl h)))))
  · exact Or.inr (Or.inl ⟨by omega, by omega⟩)

theorem validName_uriAscii {n : Bytes} (h : validName n = true) : Uri.checkUriAscii n = true :=
  List.all_eq_true.2 (validName_all h (Uri.isUriAscii · = true) (fun _ => validChar_uri) (by decide))

/-- the `if ends_with('/') … else push('/')` inside `Rsync::join`, on the URI's octets (`Uri.dirPath` does the same to
the path part, except that it leaves an empty path empty) -/
def dirOf (b : Bytes) : Bytes := if Uri.endsWithSlash b then b else b ++ [Uri.slash]

/-- Joining a legal manifest file name onto any rsync URI succeeds and appends exactly the name
to the base directory. -/
theorem join_validName (u : Uri.Rsync) (n : Bytes) (h : validName n = true) :
    u.join n = .ok { u with bytes := dirOf u.bytes ++ n } := by
  have hl := validName_length h
  have hg : Uri.goodSeg n := by
    refine ⟨?_, ?_, ?_⟩ <;> (intro e; rw [e] at hl; exact absurd hl (by decide))
  exact (Uri.Rsync.join_ok_iff hg.1).2
    ⟨validName_uriAscii h, Uri.checkPath_segment (validName_noslash h) hg, rfl⟩

/-- `BitString::skip_content` and `BitString::from_content` make the same checks; they differ in how they reach the
last octet, by the remaining length and by `last()` -/
theorem bitString_parity (c : Bytes) : bitStringSkip c = (bitStringTake c).isSome := by
  unfold bitStringSkip bitStringTake
  cases c with
  | nil => rfl
  | cons unused bits =>
    simp only
    by_cases h7 : unused > 7
    · simp [h7]
    · simp only [h7, if_false]
      by_cases hb : bits = []
      · subst hb
        by_cases hu : unused > 0 <;> simp [hu]
      · have hlen : bits.length ≠ 0 := by intro e; exact hb (List.eq_nil_of_length_eq_zero e)
        simp only [hlen, if_false, hb, false_and]
        by_cases hu : unused > 0
        · simp only [hu, if_true]
          rw [Lists.getLast?_eq_drop bits hb]
          simp only
          split <;> simp
        · simp [hu]

theorem entryBody_parity (c : Bytes) :
    (takeEntryBody c = none ∧ skipEntryBody c = false) ∨
    ∃ e, takeEntryBody c = some e ∧ skipEntryBody c = true ∧ validName e.name = true := by
  unfold skipEntryBody takeEntryBody
  cases takeIa5 c with
  | none => exact Or.inl ⟨rfl, rfl⟩
  | some p =>
    obtain ⟨file, r⟩ := p
    by_cases hv : validName file = true
    · simp only [hv, Bool.not_true, Bool.false_eq_true, if_false]
      cases takePrim tagBitString r with
      | none => exact Or.inl ⟨rfl, rfl⟩
      | some q =>
        obtain ⟨bc, r'⟩ := q
        simp only [bitString_parity]
        cases bitStringTake bc with
        | none => exact Or.inl ⟨rfl, rfl⟩
        | some w => by_cases hr : r' = [] <;> simp [hr, hv]
    · simp [hv]

theorem skip_take_parity (b : Bytes) :
    (skipOptEntry b = .absent ↔ takeOptEntry b = .absent) ∧
    (skipOptEntry b = .bad ↔ takeOptEntry b = .bad) ∧
    (∀ rest, skipOptEntry b = .ok () rest ↔ ∃ e, takeOptEntry b = .ok e rest ∧ validName e.name = true) := by
  unfold skipOptEntry takeOptEntry
  cases takeOptCons tagSeq b with
  | absent => simp
  | bad => simp
  | ok c rest =>
    rcases entryBody_parity c with ⟨h1, h2⟩ | ⟨e, h1, h2, h3⟩
    · simp [h1, h2]
    · simp only [h1, h2, if_true]
      refine ⟨by simp, by simp, fun r => ⟨?_, ?_⟩⟩
      · intro hr; cases hr; exact ⟨e, rfl, h3⟩
      · rintro ⟨e', he, _⟩; cases he; rfl

theorem countLoop_eq : ∀ (fuel : Nat) (b : Bytes) (n : Nat),
    countLoop fuel b n = capturePass skipOptEntry (fun _ => true) fuel b n := by
  intro fuel
  induction fuel with
  | zero => intro b n; rfl
  | succ f ih =>
    intro b n
    rw [countLoop, capturePass]
    cases skipOptEntry b with
    | absent => rfl
    | bad => rfl
    | ok u rest => exact ih rest (n + 1)

theorem iterLoop_eq : ∀ (fuel : Nat) (b : Bytes), iterLoop fuel b = iteratePass takeOptEntry fuel b := by
  intro fuel
  induction fuel with
  | zero => intro b; rfl
  | succ f ih =>
    intro b
    rw [iterLoop, iteratePass]
    cases takeOptEntry b with
    | absent => rfl
    | bad => rfl
    | ok e rest => exact congrArg (Option.map _) (ih rest)

/-- every entry the counting loop accepted is yielded by the iterator, in the same number, and
the iterator never hits its `unwrap()` -/
theorem count_iter (fuel : Nat) (b : Bytes) (n k : Nat) (h : countLoop fuel b n = some k) :
    ∃ es, iterLoop fuel b = some es ∧ es.length + n = k ∧ ∀ e ∈ es, validName e.name = true := by
  rw [countLoop_eq] at h
  rw [iterLoop_eq]
  exact capturePass_iteratePass skipOptEntry _ takeOptEntry _ (fun b => (skip_take_parity b).1.1)
    (fun b _ rest hs _ => ((skip_take_parity b).2.2 rest).1 hs) fuel b n k h

theorem decodeFields_facts (c : Bytes) (m : Content) (h : decodeFields c = some m) :
    civilKey m.thisUpdate ≤ civilKey m.nextUpdate ∧ countLoop m.fileList.length m.fileList 0 = some m.len := by
  revert h
  fun_cases decodeFields c <;> intro h <;> cases h
  exact ⟨Nat.not_lt.1 ‹_›, ‹_›⟩

theorem decodeContent_facts (b : Bytes) (m : Content) (h : decodeContent b = some m) :
    civilKey m.thisUpdate ≤ civilKey m.nextUpdate ∧ countLoop m.fileList.length m.fileList 0 = some m.len := by
  revert h
  fun_cases decodeContent b <;> intro h
  · cases h
  · cases h
  · exact decodeFields_facts _ m h

theorem iterUris_eq (m : Content) (base : Uri.Rsync) (es : List Entry) (h : m.iter = some es)
    (hv : ∀ e ∈ es, validName e.name = true) :
    iterUris m base = some (es.map fun e => ({ base with bytes := dirOf base.bytes ++ e.name }, e.hash)) := by
  unfold iterUris
  rw [h]
  dsimp only
  clear h
  induction es with
  | nil => rfl
  | cons e t ih =>
    rw [List.mapM_cons, join_validName base e.name (hv e (List.mem_cons_self ..)),
      ih fun x hx => hv x (List.mem_cons_of_mem _ hx)]
    rfl

theorem content_facts (c : Bytes) (base : Uri.Rsync) (hs : (decodeContent c).isSome = true) :
    ∃ m es us, decodeContent c = some m ∧
      m.iter = some es ∧ es.length = m.len ∧ (∀ e ∈ es, validName e.name = true) ∧
      civilKey m.thisUpdate ≤ civilKey m.nextUpdate ∧
      iterUris m base = some us ∧ us.length = m.len ∧ (∀ e ∈ es, 47 ∉ e.name) := by
  obtain ⟨m, hm⟩ := Option.isSome_iff_exists.1 hs
  obtain ⟨hord, hcount⟩ := decodeContent_facts c m hm
  obtain ⟨es, h1, h2, h3⟩ := count_iter _ _ _ _ hcount
  exact ⟨m, es, _, hm, h1, h2, h3, hord, iterUris_eq m base es h1 h3, (List.length_map _).trans h2,
    fun e he => validName_noslash (h3 e he)⟩

end Rpki.Manifest
