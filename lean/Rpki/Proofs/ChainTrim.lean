import Rpki.Proofs.ChainLemmas
/-! `Chain::trim` computes the intersection of two canonical chains, or reports that the first lies inside
the second. Its loop is a two-pointer pass; each of its five branches is one use of `inter_step` at a
frontier chosen for that branch. -/
namespace Rpki.Chain

/-- what a result of the loop says of `sl`, `ol` (what is left of the two chains), `acc` (the blocks kept so far, last
first) and `ch` (whether anything of the first chain has been dropped or cut): `ok` is only reached unchanged,
`error r` has `acc` in front of the intersection of what is left -/
def TrimPost (M : Nat) (ol sl acc : List Blk) (ch : Bool) : Except (List Blk) Unit → Prop
  | .ok _ => ch = false ∧ ∀ x, mem sl x → mem ol x
  | .error r => Puts M acc (fun x => mem sl x ∧ mem ol x) r

/-- the loop seen from after an iteration, when either chain may have run out (`trimLoop_succ`) -/
def trimRest (M fuel : Nat) : List Blk → List Blk → List Blk → Bool → Except (List Blk) Unit
  | o :: os, s :: ss, acc, ch => trimLoop M fuel o os s ss acc ch
  | [], _, acc, _ => .error acc.reverse
  | _ :: _, [], acc, ch => if ch then .error acc.reverse else .ok ()

/-- one iteration of `trimLoop`, its `match`es on what is left folded into `trimRest` -/
def trimStep (M fuel : Nat) (o : Blk) (os : List Blk) (s : Blk) (ss acc : List Blk) (ch : Bool) :
    Except (List Blk) Unit :=
  if o.hi < s.lo then trimRest M fuel os (s :: ss) acc ch
  else if s.lo ≥ o.lo ∧ s.hi ≤ o.hi then trimRest M fuel (o :: os) ss (s :: acc) ch
  else if s.hi < o.lo then trimRest M fuel (o :: os) ss acc true
  else if s.hi ≤ o.hi then trimRest M fuel (o :: os) ss (⟨max s.lo o.lo, s.hi⟩ :: acc) true
  else trimRest M fuel (o :: os) (⟨o.hi + 1, s.hi⟩ :: ss) (⟨max s.lo o.lo, o.hi⟩ :: acc) true

theorem trimLoop_succ (M fuel : Nat) (o : Blk) (os : List Blk) (s : Blk) (ss acc : List Blk) (ch : Bool) :
    trimLoop M (fuel + 1) o os s ss acc ch = trimStep M fuel o os s ss acc ch := by
  cases os <;> cases ss <;> rfl

/-- what the loop is to satisfy with `fuel` iterations left; a cut block is followed by an iteration that only
advances in the second chain, so that one is not counted -/
def TrimLoopSpec (M fuel : Nat) : Prop :=
  ∀ (o : Blk) (os : List Blk) (s : Blk) (ss acc : List Blk) (ch : Bool),
    Canon M (o :: os) → Canon M (s :: ss) →
    (2 * os.length + ss.length + 1 < fuel ∨ (o.hi < s.lo ∧ 2 * os.length + ss.length < fuel)) →
    TrimPost M (o :: os) (s :: ss) acc ch (trimLoop M fuel o os s ss acc ch)

theorem trimRest_post {M fuel : Nat} (ih : TrimLoopSpec M fuel) {ol sl acc : List Blk} {ch : Bool}
    (hol : Canon M ol) (hsl : Canon M sl) (hm : 2 * ol.length + sl.length ≤ fuel + 1) :
    TrimPost M ol sl acc ch (trimRest M fuel ol sl acc ch) := by
  cases ol with
  | nil => exact Puts.done acc fun x h => mem_nil x h.2
  | cons o os =>
    cases sl with
    | nil =>
      cases ch
      · exact ⟨rfl, fun x h => absurd h (mem_nil x)⟩
      · exact Puts.done acc fun x h => mem_nil x h.1
    | cons s ss =>
      exact ih o os s ss acc ch hol hsl (Or.inl (by simp only [List.length_cons] at hm; omega))

/-- The post-condition goes back over one iteration with frontier `t`. The flag stays unset only in the two branches
in which `s` starts at or after `o.lo` (`hch`): with `t ≤ o.hi` that puts the part of `s` up to `t` inside `o`, which
is what the `ok` case needs. The part `[max s.lo o.lo, t]` of the intersection is put out
if there is one (`hA`); `t` being the end of one of the two head blocks, there is a gap behind it. -/
theorem trimPost_step {M t : Nat} {o s : Blk} {os ss ol' sl' acc acc' : List Blk} {ch ch' : Bool}
    {res : Except (List Blk) Unit} (ho : Canon M (o :: os)) (hs : Canon M (s :: ss))
    (hts : t ≤ s.hi) (hto : t ≤ o.hi)
    (hS : ∀ x, mem sl' x ↔ mem (s :: ss) x ∧ t < x)
    (hR : ∀ x, t < x → (mem ol' x ↔ mem (o :: os) x))
    (hA : acc' = acc ∧ t < max s.lo o.lo ∨
      ∃ n : Blk, acc' = n :: acc ∧ n.lo = max s.lo o.lo ∧ n.hi = t ∧ max s.lo o.lo ≤ t ∧ (t = s.hi ∨ t = o.hi))
    (hch : ch' = false → ch = false ∧ o.lo ≤ s.lo)
    (hp : TrimPost M ol' sl' acc' ch' res) : TrimPost M (o :: os) (s :: ss) acc ch res := by
  cases res with
  | ok u =>
    obtain ⟨hc, hlo⟩ := hch hp.1
    refine ⟨hc, fun x hx => ?_⟩
    rcases Nat.lt_or_ge t x with h | h
    · exact (hR x h).1 (hp.2 x ((hS x).2 ⟨hx, h⟩))
    · exact (mem_of_le_hi ho (Nat.le_trans h hto)).2 (Nat.le_trans hlo (canon_head_le hs hx))
  | error r =>
    have step := inter_step hs ho hts hto hS hR
    rcases hA with ⟨rfl, hlt⟩ | ⟨n, rfl, hn1, hn2, hle, ht⟩
    · exact Puts.congr (fun x => ((step x).symm.trans (or_iff_right fun h =>
        Nat.lt_irrefl _ (Nat.lt_of_lt_of_le hlt (Nat.le_trans h.1 h.2))))) hp
    · refine Puts.emit (n := n) ⟨hn1 ▸ hn2 ▸ hle, hn2 ▸ Nat.le_trans hts (canon_cons.1 hs).1.2⟩
        (fun x => hn1 ▸ hn2 ▸ (step x).symm) (fun x hx => ?_) hp
      have h1 := (hS x).1 hx.1
      refine Nat.lt_of_le_of_ne (hn2 ▸ h1.2) fun e => ?_
      rcases ht with ht | ht
      · exact not_mem_succ_hi hs (ht ▸ hn2 ▸ e ▸ h1.1)
      · exact not_mem_succ_hi ho (ht ▸ hn2 ▸ e ▸ (hR x h1.2).1 hx.2)

theorem trimLoop_spec (M : Nat) : ∀ fuel, TrimLoopSpec M fuel := by
  intro fuel
  induction fuel with
  | zero => intro o os s ss acc ch _ _ hf; omega
  | succ fuel ih =>
    intro o os s ss acc ch ho hs hf
    have hf1 : 2 * os.length + (s :: ss).length ≤ fuel + 1 := by
      rw [List.length_cons]; omega
    have hf2 : ¬ o.hi < s.lo →
        2 * (o :: os).length + ss.length ≤ fuel + 1 ∧ 2 * os.length + ss.length < fuel := by
      rw [List.length_cons]; omega
    clear hf
    obtain ⟨ho1, ho2, ho3⟩ := canon_cons.1 ho
    obtain ⟨hs1, hs2, hs3⟩ := canon_cons.1 hs
    rw [trimLoop_succ]
    fun_cases trimStep M fuel o os s ss acc ch
    next c1 =>
      exact trimPost_step ho hs (Nat.le_of_lt (Nat.lt_of_lt_of_le c1 hs1.1)) (Nat.le_refl _)
        (mem_above_head hs c1) (mem_tail_agree ho) (.inl ⟨rfl, Nat.lt_of_lt_of_le c1 (Nat.le_max_left ..)⟩)
        (fun h => ⟨h, Nat.le_of_lt (Nat.lt_of_le_of_lt ho1.1 c1)⟩) (trimRest_post ih ho3 hs hf1)
    next c1 c2 =>
      exact trimPost_step ho hs (Nat.le_refl _) c2.2 (mem_tail_iff hs) (fun _ _ => Iff.rfl)
        (.inr ⟨s, rfl, (Nat.max_eq_left c2.1).symm, rfl, Nat.max_le.2 ⟨hs1.1, Nat.le_trans c2.1 hs1.1⟩, .inl rfl⟩)
        (fun h => ⟨h, c2.1⟩) (trimRest_post ih ho hs3 (hf2 c1).1)
    next c1 c2 c3 =>
      exact trimPost_step (ch' := true) ho hs (Nat.le_refl _) (Nat.le_of_lt (Nat.lt_of_lt_of_le c3 ho1.1))
        (mem_tail_iff hs) (fun _ _ => Iff.rfl) (.inl ⟨rfl, Nat.lt_of_lt_of_le c3 (Nat.le_max_right ..)⟩)
        nofun (trimRest_post ih ho hs3 (hf2 c1).1)
    next c1 c2 c3 c4 =>
      exact trimPost_step (ch' := true) ho hs (Nat.le_refl _) c4 (mem_tail_iff hs) (fun _ _ => Iff.rfl)
        (.inr ⟨⟨max s.lo o.lo, s.hi⟩, rfl, rfl, rfl, Nat.max_le.2 ⟨hs1.1, Nat.le_of_not_lt c3⟩, .inl rfl⟩) nofun
        (trimRest_post ih ho hs3 (hf2 c1).1)
    next c1 c2 c3 c4 =>
      have c4' : o.hi + 1 ≤ s.hi := Nat.lt_of_not_le c4
      exact trimPost_step (ch' := true) ho hs (Nat.le_of_lt c4') (Nat.le_refl _)
        (mem_chop_iff hs (Nat.max_eq_right (Nat.le_succ_of_le (Nat.le_of_not_lt c1))).symm c4') (fun _ _ => Iff.rfl)
        (.inr ⟨⟨max s.lo o.lo, o.hi⟩, rfl, rfl, rfl, Nat.max_le.2 ⟨Nat.le_of_not_lt c1, ho1.1⟩, .inr rfl⟩) nofun
        (ih o os _ ss _ true ho (canon_chop hs c4') (Or.inr ⟨Nat.lt_succ_self _, (hf2 c1).2⟩))

theorem trim_spec' (M : Nat) (a b : List Blk) (ha : Canon M a) (hb : Canon M b) :
    match trim M a b with
    | .ok () => ∀ x, mem a x → mem b x
    | .error r => Canon M r ∧ ∀ x, mem r x ↔ (mem a x ∧ mem b x) := by
  cases b with
  | nil => exact Runs.nil fun x h => mem_nil x h.2
  | cons o os =>
    cases a with
    | nil => exact fun x hx => absurd hx (mem_nil x)
    | cons s ss =>
      have h := trimLoop_spec M (2 * ((s :: ss).length + (o :: os).length) + 2) o os s ss [] false
        hb ha (by simp only [List.length_cons]; omega)
      show match trimLoop M _ o os s ss [] false with | .ok () => _ | .error r => _
      generalize trimLoop M _ o os s ss [] false = res at h
      cases res with
      | ok u => exact h.2
      | error r => exact h.runs

end Rpki.Chain
