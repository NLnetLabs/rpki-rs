/-
The connection task against its specification. `sem c t` is what a connection in state `c` will still answer
if the bytes `t` arrive; draining the buffer gives out a first part of it and leaves the rest as it was.
-/
import Rpki.Proofs.RtrServerLemmas
namespace Rpki.RtrServer
open Rpki.Consts Rpki.Rtr

/-- the value read from src/rtr/server.rs; `run_refines` is for a header read that keeps its octets -/
theorem cancelSafe : rtrRecvCancelSafe = true := rfl

/-- the answers among what a connection sends: Serial Notify PDUs removed -/
def respOnly (l : List Out) : List Out := l.filter (fun o => !o.isNotify)

theorem respOnly_append (a b : List Out) : respOnly (a ++ b) = respOnly a ++ respOnly b :=
  List.filter_append ..

def sem (src : Src) (c : Conn) (t : Bytes) : List Out :=
  if c.dead then [] else serveAux src ((c.buf ++ t).length + 1) c.ver (c.buf ++ t)

/-- nothing can be parsed from what is buffered: the task is blocked -/
def Quiet (src : Src) (c : Conn) : Prop := c.dead = true ∨ parseOne src c.ver c.buf = .more

theorem sem_of_dead (src : Src) {c : Conn} (t : Bytes) (hd : c.dead = true) : sem src c t = [] :=
  if_pos hd

theorem sem_of_live (src : Src) {c : Conn} (t : Bytes) (hd : c.dead = false) :
    sem src c t = serveAux src ((c.buf ++ t).length + 1) c.ver (c.buf ++ t) :=
  if_neg (by rw [hd]; decide)

theorem sem_one (src : Src) (c : Conn) (t : Bytes) (hd : c.dead = false) (used : Nat) (out : Out) (w : Option Nat)
    (hp : parseOne src c.ver c.buf = .one used out w) :
    sem src c t = out :: sem src { c with ver := w, buf := c.buf.drop used } t := by
  have ⟨_, h1, h2, h3⟩ := (parseOne_stable src c.ver c.buf t).1 used out w hp
  rw [sem_of_live src t hd, sem_of_live src (c := { c with ver := w, buf := c.buf.drop used }) t hd,
    serveAux, h3]
  simp only
  rw [List.drop_append_of_le_length h2]
  congr 1
  apply serveAux_fuel
  · rw [List.length_append, List.length_append]
    exact Nat.add_lt_add_right (length_drop_lt h1 h2) _
  · exact Nat.lt_succ_self _

theorem sem_dead_parse (src : Src) (c : Conn) (t : Bytes) (hd : c.dead = false)
    (hp : parseOne src c.ver c.buf = .dead) : sem src c t = [] := by
  rw [sem_of_live src t hd, serveAux, (parseOne_stable src c.ver c.buf t).2 hp]

theorem quiet_sem_nil (src : Src) (c : Conn) (h : Quiet src c) : sem src c [] = [] := by
  cases hd : c.dead with
  | true => exact sem_of_dead src [] hd
  | false =>
    rw [sem_of_live src [] hd, List.append_nil, serveAux, h.resolve_left (by rw [hd]; decide)]

/-- Fuel enough: a round per buffered octet and one for a waiting notification; `step` hands over
`2 * length + 4`. -/
theorem drain_spec (src : Src) (fuel : Nat) (inP : Bool) (c : Conn) (t : Bytes)
    (hf : c.buf.length + (if c.pendingNotify then 1 else 0) < fuel) :
    respOnly (drain src fuel inP c).2 ++ sem src (drain src fuel inP c).1 t = sem src c t ∧
    Quiet src (drain src fuel inP c).1 := by
  fun_induction drain src fuel inP c
  case case1 => cases hf
  case case2 hd => exact ⟨rfl, Or.inl hd⟩
  case case3 hn _ _ e ih =>
    rw [hn.1, if_pos rfl] at hf
    rw [e] at ih
    exact ih (Nat.lt_of_succ_lt_succ hf)
  case case4 hp => exact ⟨rfl, Or.inr hp⟩
  case case5 c hd _ hp => exact ⟨(sem_dead_parse src c t (Bool.eq_false_iff.2 hd) hp).symm, Or.inl rfl⟩
  case case6 c hd _ used out w hp _ _ e ih =>
    have ⟨hnn, h1, h2, _⟩ := (parseOne_stable src c.ver c.buf []).1 used out w hp
    rw [e] at ih
    have ⟨i1, i2⟩ := ih
      (Nat.lt_of_lt_of_le (Nat.add_lt_add_right (length_drop_lt h1 h2) _) (Nat.le_of_lt_succ hf))
    refine ⟨?_, i2⟩
    rw [sem_one src c t (Bool.eq_false_iff.2 hd) used out w hp, ← i1]
    show respOnly (out :: _) ++ _ = _
    rw [respOnly, List.filter_cons_of_pos (by rw [hnn]; rfl)]
    rfl

/-- The answers a connection gives (notifications removed) are those the specification gives to the
buffered bytes followed by all bytes that are still to arrive: however the bytes are cut into chunks
and wherever notifications fall. -/
theorem run_refines (src : Src) : ∀ (es : List Event) (c : Conn), Quiet src c →
    respOnly (run src c es) = sem src c (chunksOf es) := by
  intro es
  induction es with
  | nil => intro c hq; exact (quiet_sem_nil src c hq).symm
  | cons e es ih =>
    intro c hq
    rw [run]
    rcases Bool.eq_false_or_eq_true c.dead with hd | hd
    · -- a dead connection is `Quiet`, stays dead and is silent
      rw [sem_of_dead src _ hd]
      cases e with
      | chunk bs => simp only [step, if_pos hd]; exact (ih c hq).trans (sem_of_dead src _ hd)
      | notify => simp only [step, if_pos hd]; exact (ih c hq).trans (sem_of_dead src _ hd)
      | eof => exact (ih { c with dead := true } (Or.inl rfl)).trans (sem_of_dead src _ rfl)
    cases e with
    | chunk bs =>
      simp only [step, chunksOf]
      rw [if_neg (by rw [hd]; decide)]
      have ⟨d1, d2⟩ := drain_spec src (2 * (c.buf.length + bs.length) + 4) c.inPayload
        { c with buf := c.buf ++ bs } (chunksOf es) (show (c.buf ++ bs).length + _ < _ by
          rw [List.length_append]; split <;> omega)
      rw [respOnly_append, ih _ d2, d1, sem_of_live src _ hd,
        sem_of_live src _ (c := { c with buf := c.buf ++ bs }) hd]
      simp only [List.append_assoc]
    | notify =>
      simp only [step, chunksOf]
      rw [if_neg (by rw [hd]; decide)]
      by_cases hp : c.inPayload = true
      · rw [if_pos hp]
        exact ih { c with pendingNotify := true } hq
      · -- the header read is cancel safe: what was buffered is kept
        rw [if_neg hp, if_pos cancelSafe]
        exact ih { c with buf := c.buf } hq
    | eof =>
      simp only [step, chunksOf, List.nil_append]
      rw [ih _ (Or.inl rfl), quiet_sem_nil src c hq]
      rfl

end Rpki.RtrServer
