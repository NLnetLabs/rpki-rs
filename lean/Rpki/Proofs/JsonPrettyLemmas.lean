/-
  The serde_json reader model reads what the *pretty* writer model writes (`Rpki/Model/JsonPretty.lean`).
-/
import Rpki.Model.JsonPretty
import Rpki.Proofs.JsonReadLemmas
namespace Rpki.JsonRead
open Rpki.Slurm Rpki.JsonText

theorem ind_ws (d : Nat) : Ws (ind d) := by
  intro c hc
  rw [(List.mem_replicate.mp hc).2]; rfl

theorem nl_ind_ws (d : Nat) : Ws (10 :: ind d) := .cons rfl (ind_ws d)

theorem skip_nl_ind (d c : Nat) (r : List Nat) (hc : isWs c = false) :
    skipWs (10 :: (ind d ++ c :: r)) = c :: r :=
  skipWs_sep (w := 10 :: ind d) c r (nl_ind_ws d) hc

theorem pretty : Layout renderP elemsP membersP where
  atom d j h := by
    rcases j with _ | _ | _ | _ | _ | b | (_ | _) | (_ | _)
    case bool => cases b <;> rfl
    case arr.cons => exact h.elim
    case obj.cons => exact h.elim
    all_goals rfl
  arr d _ _ := ⟨_, nl_ind_ws (d + 1), rfl⟩
  obj d _ _ := ⟨_, nl_ind_ws (d + 1), rfl⟩
  last d _ := ⟨_, nl_ind_ws (d - 1), rfl⟩
  next d _ _ _ := ⟨[], _, nofun, nl_ind_ws d, rfl⟩
  mlast d _ _ := ⟨[], [32], _, nofun, .cons rfl nofun, nl_ind_ws (d - 1), rfl⟩
  mnext d _ _ _ _ := ⟨[], [32], [], _, nofun, .cons rfl nofun, nofun, nl_ind_ws d, rfl⟩

theorem readElems_P : ∀ (l : List Json) (_ : l ≠ []) (d f : Nat) (rest : List Nat) (acc : List Json)
    (w : List Nat) (_ : ∀ c ∈ w, isWs c = true), (elemsP d l).length ≤ f →
    readElems f (w ++ (elemsP d l ++ rest)) acc = some (acc.reverse ++ eraseArr l, rest)
  | [], hne, _, _, _, _, _, _ => absurd rfl hne
  | x :: xs, _, d, f, rest, acc, w, hw => (pretty.read f).2.1 x xs d rest acc w hw

theorem readMembers_P : ∀ (l : List (Key × Json)) (_ : l ≠ []) (d f : Nat) (rest : List Nat)
    (acc : List (Key × Json)) (w : List Nat) (_ : ∀ c ∈ w, isWs c = true), (membersP d l).length ≤ f →
    readMembers f (w ++ (membersP d l ++ rest)) acc = some (acc.reverse ++ eraseObj l, rest)
  | [], hne, _, _, _, _, _, _ => absurd rfl hne
  | (k, v) :: xs, _, d, f, rest, acc, w, hw => (pretty.read f).2.2 k v xs d rest acc w hw

end Rpki.JsonRead
