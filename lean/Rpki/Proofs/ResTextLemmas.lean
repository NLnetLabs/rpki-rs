/-
  Text form of resource sets (`Rpki/Model/ResText.lean`): the readers give back what the writers
  wrote — AS numbers, AS blocks and AS sets, prefix lengths (the address round trips are in `ResTextV6`); the
  bound of what the length reader returns; how the block and list readers take a written block or list
  apart, for either address family; and the IPv4 address as it stands in a block (upper 32 of 128 bits).
-/
import Rpki.Proofs.ResTextV6
import Rpki.Proofs.AsDerCodec  -- canonical chains (`fromIter_canon_id`); also this module's path to Mathlib, with which `2 ^ k` in the statements is elaborated
namespace Rpki.ResText
open Rpki.Chain

abbrev digVal (b : Bytes) : Nat := b.foldl (fun acc c => acc * 10 + (c - 48)) 0

theorem parseU32_digits (b : Bytes) (hne : b ≠ []) (hd : b.all isDigit = true) :
    parseU32 b = if digVal b < 2 ^ 32 then some (digVal b) else none := by
  unfold parseU32
  split
  · next r =>
      have := List.all_eq_true.1 hd 43 List.mem_cons_self
      simp [isDigit] at this
  · exact (if_neg hne).trans (if_pos hd)

theorem parseU32_decimal (n : Nat) (h : n < 2 ^ 32) : parseU32 (decimal n) = some n := by
  rw [parseU32_digits _ (decimal_digits n).1 (decimal_all_isDigit n), digVal, decimal_value, if_pos h]

theorem splitComma_eq : ∀ (b cur : Bytes), splitComma b cur = splitOn 44 b cur := by
  intro b
  induction b with
  | nil => intro cur; rfl
  | cons c rest ih => intro cur; rw [splitComma, splitOn, ih, ih]

theorem splitComma_joinComma (p : Bytes) (ps : List Bytes) (hp : ∀ c ∈ p, c ≠ 44)
    (hps : ∀ q ∈ ps, ∀ c ∈ q, c ≠ 44) : splitComma (joinComma (p :: ps)) [] = p :: ps.map (32 :: ·) := by
  rw [splitComma_eq]
  induction ps generalizing p with
  | nil => exact splitOn_last 44 p hp
  | cons q ps ih =>
    have e : joinComma (p :: q :: ps) = p ++ 44 :: joinComma ((32 :: q) :: ps) := by
      cases ps <;> exact List.append_assoc p [44, 32] _
    obtain ⟨hq, hps'⟩ := List.forall_mem_cons.1 hps
    rw [e, splitOn_sep 44 p _ hp, ih (32 :: q) (List.forall_mem_cons.2 ⟨by decide, hq⟩) hps']
    rfl

theorem isWs_false (c : Nat) (h : 45 ≤ c) : isWs c = false := by
  unfold isWs
  rw [decide_eq_false (by omega : ¬ c = 32), decide_eq_false (by omega : ¬ c ≤ 13), Bool.and_false]
  rfl

theorem dropWhile_isWs_self (p : Bytes) (h : ∀ c ∈ p, 45 ≤ c) : p.dropWhile isWs = p :=
  Lists.dropWhile_of_head fun c e => isWs_false c (h c (List.mem_of_mem_head? e))

theorem trim_self (p : Bytes) (h : ∀ c ∈ p, 45 ≤ c) : trim p = p := by
  unfold trim
  rw [dropWhile_isWs_self p h, dropWhile_isWs_self p.reverse (fun c hc => h c (List.mem_reverse.1 hc)),
    List.reverse_reverse]

theorem trim_space (p : Bytes) : trim (32 :: p) = trim p := rfl

/-- the items `from_str` sees are the pieces that were joined: no piece is empty or holds a comma or
white space (every character written is at least `-`) -/
theorem items_joinComma (ps : List Bytes) (h : ∀ p ∈ ps, p ≠ [] ∧ ∀ c ∈ p, 45 ≤ c) :
    ((splitComma (joinComma ps) []).map trim).filter (· ≠ []) = ps := by
  have h44 : ∀ p ∈ ps, ∀ c ∈ p, c ≠ 44 := fun p hp c hc => by have := (h p hp).2 c hc; omega
  cases ps with
  | nil => rfl
  | cons p ps =>
    have e : (p :: ps.map (32 :: ·)).map trim = p :: ps := by
      rw [List.map_cons, List.map_map, trim_self p (h p List.mem_cons_self).2,
        List.map_congr_left (f := trim ∘ (32 :: ·)) (g := id) fun q hq => (trim_space q).trans (trim_self q (h q (List.mem_cons_of_mem _ hq)).2),
        List.map_id]
    rw [splitComma_joinComma p ps (h44 p List.mem_cons_self) fun q hq => h44 q (List.mem_cons_of_mem _ hq), e,
      List.filter_eq_self]
    intro q hq
    exact decide_eq_true (h q hq).1

theorem takeWhile_stop (sep : Nat) (p r : Bytes) (hp : ∀ c ∈ p, c ≠ sep) :
    (p ++ sep :: r).takeWhile (· ≠ sep) = p :=
  Lists.takeWhile_append_stop p sep r (fun c hc => decide_eq_true (hp c hc)) (decide_eq_false (· rfl))

theorem takeWhile_all (sep : Nat) (p : Bytes) (hp : ∀ c ∈ p, c ≠ sep) : p.takeWhile (· ≠ sep) = p := by
  have := Lists.takeWhile_append_of_head (l := []) (fun c hc => decide_eq_true (hp c hc)) nofun
  rwa [List.append_nil] at this

theorem findSep_none (sep : Nat) (b : Bytes) (hb : ∀ c ∈ b, c ≠ sep) : findSep sep b = none := by
  unfold findSep
  rw [takeWhile_all sep b hb]
  exact if_pos rfl

theorem findSep_some (sep : Nat) (p r : Bytes) (hp : ∀ c ∈ p, c ≠ sep) :
    findSep sep (p ++ sep :: r) = some p.length := by
  unfold findSep
  rw [takeWhile_stop sep p r hp]
  exact if_neg (by rw [List.length_append, List.length_cons]; omega)

theorem drop_sep (p r : Bytes) (x : Nat) : (p ++ x :: r).drop (p.length + 1) = r :=
  List.drop_length_add_append 1

theorem parseAsn_fmt (n : Nat) (h : n < 2 ^ 32) : parseAsn (65 :: 83 :: decimal n) = some n :=
  parseU32_decimal n h

theorem asn_no_dash (n : Nat) : ∀ c ∈ 65 :: 83 :: decimal n, c ≠ 45 :=
  List.forall_mem_cons.2 ⟨by decide, List.forall_mem_cons.2 ⟨by decide, decimal_ne n 45 (by decide)⟩⟩

theorem parseAsBlock_single (p : Bytes) (hp : ∀ c ∈ p, c ≠ 45) :
    parseAsBlock p = (parseAsn p).map fun v => ⟨v, v⟩ := by
  unfold parseAsBlock
  rw [takeWhile_all 45 p hp]
  exact if_pos rfl

theorem parseAsBlock_range (p q : Bytes) (lo hi : Nat) (hp : ∀ c ∈ p, c ≠ 45) (hq : q ≠ [])
    (hlo : parseAsn p = some lo) (hhi : parseAsn q = some hi) (hle : lo ≤ hi) :
    parseAsBlock (p ++ 45 :: q) = some ⟨lo, hi⟩ := by
  unfold parseAsBlock
  dsimp only
  rw [takeWhile_stop 45 p q hp, drop_sep, hlo, hhi]
  dsimp only
  rw [if_neg (by rw [List.length_append, List.length_cons]; omega), if_neg hq, if_neg (by omega)]

theorem parseAsBlock_fmt (b : Blk) (h1 : b.lo ≤ b.hi) (h2 : b.hi < 2 ^ 32) :
    parseAsBlock (fmtAsBlock b) = some b := by
  obtain ⟨lo, hi⟩ := b
  unfold fmtAsBlock
  by_cases e : lo = hi
  · subst e
    rw [if_pos rfl]
    exact (parseAsBlock_single _ (asn_no_dash lo)).trans (by rw [parseAsn_fmt lo h2]; rfl)
  · have etxt : [65, 83] ++ decimal lo ++ [45, 65, 83] ++ decimal hi =
        (65 :: 83 :: decimal lo) ++ 45 :: (65 :: 83 :: decimal hi) := List.append_assoc _ [45, 65, 83] _
    rw [if_neg e, etxt]
    exact parseAsBlock_range _ _ lo hi (asn_no_dash lo) (List.cons_ne_nil _ _)
      (parseAsn_fmt lo (Nat.lt_of_le_of_lt h1 h2)) (parseAsn_fmt hi h2) h1

/-- `c ≠ 60`: the text also stands as an XML attribute value (`fmtAs_value`) -/
theorem fmtAsBlock_chars (b : Blk) : fmtAsBlock b ≠ [] ∧ ∀ c ∈ fmtAsBlock b, 45 ≤ c ∧ c ≠ 60 := by
  have hd : ∀ n, ∀ c ∈ decimal n, 45 ≤ c ∧ c ≠ 60 := fun n c hc => by
    have := (decimal_digits n).2 c hc
    omega
  unfold fmtAsBlock
  split
  · exact ⟨List.cons_ne_nil _ _, List.forall_mem_append.2 ⟨by decide, hd _⟩⟩
  · exact ⟨List.append_ne_nil_of_left_ne_nil (List.append_ne_nil_of_right_ne_nil _ (List.cons_ne_nil _ _)) _,
      List.forall_mem_append.2 ⟨List.forall_mem_append.2 ⟨List.forall_mem_append.2 ⟨by decide, hd _⟩, by decide⟩, hd _⟩⟩

theorem parseAsItems_fmt (c : List Blk) (h : ∀ b ∈ c, b.lo ≤ b.hi ∧ b.hi < 2 ^ 32) :
    parseAsItems (fmtAs c) = some c := by
  unfold parseAsItems fmtAs
  rw [items_joinComma]
  · exact Lists.mapM_map_some parseAsBlock fmtAsBlock c (fun b hb => parseAsBlock_fmt b (h b hb).1 (h b hb).2)
  · intro p hp
    obtain ⟨b, _, rfl⟩ := List.mem_map.1 hp
    exact ⟨(fmtAsBlock_chars b).1, fun c hc => ((fmtAsBlock_chars b).2 c hc).1⟩

theorem parseAs_fmt (c : List Blk) (hc : Canon 4294967295 c) : parseAs (fmtAs c) = some c := by
  unfold parseAs
  rw [parseAsItems_fmt c (fun b hb => by have := hc.1 b hb; omega), Option.map_some,
    Chain.fromIter_canon_id 4294967295 c hc]

theorem parseLen_decimal (n : Nat) (h : n ≤ 255) : parseLen (decimal n) = some n := by
  have h1 : ¬ (decimal n = [] ∨ (!(decimal n).all isDigit) = true) := by
    rw [decimal_all_isDigit]
    rintro (h' | h')
    · exact (decimal_digits n).1 h'
    · cases h'
  unfold parseLen
  split
  · next r heq =>
      have := (decimal_digits n).2 43 (by rw [heq]; exact List.mem_cons_self)
      omega
  · dsimp only
    rw [if_neg h1, decimal_value]
    exact if_pos h

theorem parseLen_lt (b : Bytes) (n : Nat) (h : parseLen b = some n) : n < 256 := by
  simp only [parseLen, Option.ite_none_left_eq_some, Option.ite_none_right_eq_some, Option.some.injEq] at h
  obtain ⟨_, h1, rfl⟩ := h
  omega

/-! A written address holds no `/`, `-`, `,` or blank (`46 ≤ c ∧ c ≠ 47` for each character); that alone fixes
how `parseIpBlock` takes a block apart. -/

theorem parseIpBlock_addr (v4 : Bool) (A : Bytes) (a : Nat) (hA : ∀ c ∈ A, 46 ≤ c ∧ c ≠ 47)
    (ha : parseAddr v4 A = some a) :
    parseIpBlock v4 A = some (.range a (if v4 then a + (2 ^ 96 - 1) else a)) := by
  unfold parseIpBlock
  rw [findSep_none 47 A fun c hc => (hA c hc).2]
  dsimp only
  rw [findSep_none 45 A fun c hc => by have := (hA c hc).1; omega, ha]
  rfl

theorem parseIpBlock_pfx (v4 : Bool) (A D : Bytes) (a len : Nat) (hA : ∀ c ∈ A, 46 ≤ c ∧ c ≠ 47)
    (ha : parseAddr v4 A = some a) (hl : parseLen D = some len) (hle : len ≤ if v4 then 32 else 128) :
    parseIpBlock v4 (A ++ 47 :: D) = some (.pfx (a / 2 ^ (128 - len) * 2 ^ (128 - len)) len) := by
  unfold parseIpBlock
  rw [findSep_some 47 A D fun c hc => (hA c hc).2]
  dsimp only
  rw [List.take_left, drop_sep, ha, hl]
  exact if_neg (Nat.not_lt.2 hle)

theorem parseIpBlock_range (v4 : Bool) (A B : Bytes) (lo hi : Nat) (hA : ∀ c ∈ A, 46 ≤ c ∧ c ≠ 47)
    (hB : ∀ c ∈ B, 46 ≤ c ∧ c ≠ 47) (hlo : parseAddr v4 A = some lo) (hhi : parseAddr v4 B = some hi) :
    parseIpBlock v4 (A ++ 45 :: B) = some (.range lo (if v4 then hi + (2 ^ 96 - 1) else hi)) := by
  unfold parseIpBlock
  rw [findSep_none 47 _ (List.forall_mem_append.2
    ⟨fun c hc => (hA c hc).2, List.forall_mem_cons.2 ⟨by decide, fun c hc => (hB c hc).2⟩⟩)]
  dsimp only
  rw [findSep_some 45 A B fun c hc => by have := (hA c hc).1; omega]
  dsimp only
  rw [List.take_left, drop_sep, hlo, hhi]

theorem fmtBlock_chars (v4 : Bool) (P : Nat → Prop) (hA : ∀ x, ∀ c ∈ fmtAddr v4 x, P c) (h45 : P 45)
    (h47 : P 47) (hd : ∀ c, 48 ≤ c ∧ c ≤ 57 → P c) (t : TBlk) : ∀ c ∈ fmtBlock v4 t, P c := by
  cases t with
  | pfx a len =>
    refine List.forall_mem_append.2 ⟨hA a, ?_⟩
    by_cases hl : len = if v4 then 32 else 128
    · rw [if_pos hl]
      exact fun c hc => absurd hc List.not_mem_nil
    · rw [if_neg hl]
      exact List.forall_mem_cons.2 ⟨h47, fun c hc => hd c ((decimal_digits len).2 c hc)⟩
  | range lo hi =>
    by_cases hq : if v4 then lo / 2 ^ 96 = hi / 2 ^ 96 else lo = hi
    · simp only [fmtBlock, if_pos hq]
      exact hA lo
    · simp only [fmtBlock, if_neg hq]
      exact List.forall_mem_append.2 ⟨List.forall_mem_append.2 ⟨hA lo, List.forall_mem_singleton.2 h45⟩, hA hi⟩

theorem fmtBlock_head (v4 : Bool) (t : TBlk) : ∃ x r, fmtBlock v4 t = fmtAddr v4 x ++ r := by
  cases t with
  | pfx a len => exact ⟨a, _, rfl⟩
  | range lo hi =>
    by_cases hq : if v4 then lo / 2 ^ 96 = hi / 2 ^ 96 else lo = hi
    · exact ⟨lo, [], by simp only [fmtBlock, if_pos hq, List.append_nil]⟩
    · exact ⟨lo, [45] ++ fmtAddr v4 hi, by simp only [fmtBlock, if_neg hq, List.append_assoc]⟩

theorem fmtBlock_ne_nil (v4 : Bool) (hA : ∀ x, fmtAddr v4 x ≠ []) (t : TBlk) : fmtBlock v4 t ≠ [] := by
  obtain ⟨x, r, e⟩ := fmtBlock_head v4 t
  rw [e]
  exact List.append_ne_nil_of_left_ne_nil (hA x) r

theorem parseIpItems_fmt (v4 : Bool) (ts : List TBlk)
    (hch : ∀ t ∈ ts, fmtBlock v4 t ≠ [] ∧ ∀ c ∈ fmtBlock v4 t, 45 ≤ c)
    (h58 : ∀ t ∈ ts, (58 ∈ fmtBlock v4 t ↔ v4 = false))
    (hrt : ∀ t ∈ ts, (parseIpBlock v4 (fmtBlock v4 t)).map tblkBounds = some (tblkBounds t)) :
    (parseIpItems v4 (fmtIp v4 ts)).map (·.map tblkBounds) = some (ts.map tblkBounds) := by
  unfold parseIpItems fmtIp
  rw [items_joinComma _ fun p hp => by obtain ⟨t, ht, rfl⟩ := List.mem_map.1 hp; exact hch t ht]
  have hrt' := Lists.mapM_map_some_map (parseIpBlock v4) (fmtBlock v4) tblkBounds ts hrt
  cases v4 with
  | true =>
    have hany : (ts.map (fmtBlock true)).any (·.contains 58) = false := by
      rw [List.any_eq_false]
      intro p hp
      obtain ⟨t, ht, rfl⟩ := List.mem_map.1 hp
      rw [List.contains_iff_mem]
      exact fun hc => Bool.noConfusion ((h58 t ht).1 hc)
    rw [if_pos rfl, hany]
    exact hrt'
  | false =>
    have hany : (ts.map (fmtBlock false)).any (fun s => s.contains 46 && !s.contains 58) = false := by
      rw [List.any_eq_false]
      intro p hp
      obtain ⟨t, ht, rfl⟩ := List.mem_map.1 hp
      rw [List.contains_iff_mem.2 ((h58 t ht).2 rfl)]
      exact fun hc => Bool.noConfusion ((Bool.and_false _).symm.trans hc)
    rw [if_neg Bool.false_ne_true, hany]
    exact hrt'

theorem parseAddr_fmt_v4 (x : Nat) (h : x < 2 ^ 128) :
    parseAddr true (fmtAddr true x) = some (x / 2 ^ 96 * 2 ^ 96) := by
  unfold parseAddr fmtAddr
  rw [if_pos rfl, if_pos rfl, parseV4_fmtV4 (x / 2 ^ 96) (by omega)]
  rfl

theorem fmtBlock_v4_chars (t : TBlk) : ∀ c ∈ fmtBlock true t, 45 ≤ c ∧ c ≤ 57 :=
  fmtBlock_chars true _ (fun x c hc => by have := (fmtV4_chars (x / 2 ^ 96)).2 c hc; omega) (by decide) (by decide)
    (fun c hc => by omega) t

end Rpki.ResText
