/-
  The writing layer of `Rpki.Model.Xml`: escaped text is read back by `unescape`, Base64 text by
  `b64Decode`, and the decoder accepts nothing else.  Before them `inj_of_read` (a writer with a reader is
  injective: the writers' injectivity results of the XML files are instances) and the octets of a `String`.
-/
import Rpki.Model.Xml
import Rpki.Proofs.NatLemmas
namespace Rpki.Xml

theorem inj_of_read {α β γ : Type} {w : α → β} {r : β → Option γ} {f : α → γ} {P : α → Prop}
    (h : ∀ a, P a → r (w a) = some (f a)) (a b : α) (ha : P a) (hb : P b) (e : w a = w b) : f a = f b := by
  have h1 := h a ha
  rw [e, h b hb] at h1
  exact (Option.some.inj h1).symm


theorem byteArray_toList_loop (bs : ByteArray) (i : Nat) (r : List UInt8) :
    ByteArray.toList.loop bs i r = r.reverse ++ bs.data.toList.drop i := by
  fun_induction ByteArray.toList.loop bs i r with
  | case1 i r h ih =>
    rw [ih, List.reverse_cons, List.append_assoc, List.drop_eq_getElem_cons (i := i) (by simpa using h)]
    simp [ByteArray.get!, h]
  | case2 i r h =>
    rw [List.drop_eq_nil_of_le (by simpa using h), List.append_nil]

theorem byteArray_toList (bs : ByteArray) : bs.toList = bs.data.toList :=
  byteArray_toList_loop bs 0 []

theorem utf8_octets_inj {x y : String}
    (h : x.toUTF8.toList.map UInt8.toNat = y.toUTF8.toList.map UInt8.toNat) : x = y := by
  rw [byteArray_toList, byteArray_toList] at h
  exact String.toByteArray_inj.1 (ByteArray.ext (Array.toList_inj.1
    ((List.map_inj_right fun _ _ => UInt8.toNat_inj.mp).1 h)))

theorem escapeWith_cons (repl : Nat → Option Bytes) (c : Nat) (rest : Bytes) :
    escapeWith repl (c :: rest) = (repl c).getD [c] ++ escapeWith repl rest := by
  rw [escapeWith]
  cases repl c <;> rfl

/-- what follows the `&` of the five predefined entities: `lt;` `gt;` `amp;` `quot;` `apos;` -/
def entityTails : List Bytes :=
  [[108, 116, 59], [103, 116, 59], [97, 109, 112, 59], [113, 117, 111, 116, 59], [97, 112, 111, 115, 59]]

/-- no `&`, or exactly one predefined entity -/
def AmpUnit (u : Bytes) : Prop := 38 ∉ u ∨ ∃ e ∈ entityTails, u = 38 :: e

/-- what an escape table may write for the octet `c` -/
structure UnitOk (c : Nat) (u : Bytes) : Prop where
  read : ∀ f t, unescape (f + 1) (u ++ t) = (unescape f t).map (c :: ·)
  pos : 0 < u.length
  no_lt : 60 ∉ u
  amp : AmpUnit u

theorem UnitOk.self {c : Nat} (h38 : c ≠ 38) (h60 : c ≠ 60) : UnitOk c [c] where
  read f t := by
    rw [List.singleton_append, unescape.eq_def]
    simp only [if_neg h38, if_neg h60]
  pos := Nat.zero_lt_succ _
  no_lt h := h60 (List.mem_singleton.mp h).symm
  amp := .inl fun h => h38 (List.mem_singleton.mp h).symm

theorem UnitOk.entity {c : Nat} {e : Bytes} (he : e ∈ entityTails)
    (read : ∀ f t, unescape (f + 1) (38 :: e ++ t) = (unescape f t).map (c :: ·)) : UnitOk c (38 :: e) where
  read := read
  pos := Nat.zero_lt_succ _
  no_lt := by
    have : ∀ e ∈ entityTails, 60 ∉ 38 :: e := by decide
    exact this e he
  amp := .inr ⟨e, he, rfl⟩

theorem replAttr_none {c : Nat} (h60 : c ≠ 60) (h62 : c ≠ 62) (h34 : c ≠ 34) (h39 : c ≠ 39) (h38 : c ≠ 38) :
    replAttr c = none := by
  rw [replAttr, if_neg h60, if_neg h62, if_neg h34, if_neg h39, if_neg h38]

theorem replAttr_cases {P : Nat → Bytes → Prop} (lt : P 60 [38, 108, 116, 59]) (gt : P 62 [38, 103, 116, 59])
    (quot : P 34 [38, 113, 117, 111, 116, 59]) (apos : P 39 [38, 97, 112, 111, 115, 59])
    (amp : P 38 [38, 97, 109, 112, 59]) (other : ∀ c, c ≠ 60 → c ≠ 62 → c ≠ 34 → c ≠ 39 → c ≠ 38 → P c [c])
    (c : Nat) : P c ((replAttr c).getD [c]) := by
  by_cases h60 : c = 60
  · exact h60 ▸ lt
  by_cases h62 : c = 62
  · exact h62 ▸ gt
  by_cases h34 : c = 34
  · exact h34 ▸ quot
  by_cases h39 : c = 39
  · exact h39 ▸ apos
  by_cases h38 : c = 38
  · exact h38 ▸ amp
  rw [replAttr_none h60 h62 h34 h39 h38]
  exact other c h60 h62 h34 h39 h38

theorem unitOk_attr : ∀ c, UnitOk c ((replAttr c).getD [c]) :=
  replAttr_cases (.entity (by decide) fun _ _ => rfl) (.entity (by decide) fun _ _ => rfl)
    (.entity (by decide) fun _ _ => rfl) (.entity (by decide) fun _ _ => rfl)
    (.entity (by decide) fun _ _ => rfl) fun _ h60 _ _ _ h38 => .self h38 h60

theorem unitOk_pcdata (c : Nat) : UnitOk c ((replPcdata c).getD [c]) := by
  by_cases h60 : c = 60
  · exact h60 ▸ unitOk_attr 60
  by_cases h38 : c = 38
  · exact h38 ▸ unitOk_attr 38
  rw [replPcdata, if_neg h60, if_neg h38]
  exact .self h38 h60

/-- one unit of fuel per unit read: the length of the escaped text is enough -/
theorem unescape_escapeWith {repl : Nat → Option Bytes} (hu : ∀ c, UnitOk c ((repl c).getD [c])) :
    ∀ (b : Bytes) (fuel : Nat), (escapeWith repl b).length < fuel → unescape fuel (escapeWith repl b) = some b
  | [], _ + 1, _ => rfl
  | c :: rest, f + 1, h => by
    rw [escapeWith_cons, List.length_append] at h
    have := (hu c).pos
    rw [escapeWith_cons, (hu c).read, unescape_escapeWith hu rest f (by omega)]
    rfl

theorem unescape_escapeAttr (b : Bytes) : unescapeAll (escapeAttr b) = some b :=
  unescape_escapeWith unitOk_attr b _ (Nat.lt_succ_self _)

theorem escapeAttr_inj (a b : Bytes) (h : escapeAttr a = escapeAttr b) : a = b :=
  inj_of_read (P := fun _ => True) (f := id) (fun a _ => unescape_escapeAttr a) a b trivial trivial h

theorem unescape_escapePcdata (b : Bytes) : unescapeAll (escapePcdata b) = some b :=
  unescape_escapeWith unitOk_pcdata b _ (Nat.lt_succ_self _)

theorem not_mem_escapeWith {repl : Nat → Option Bytes} {x : Nat} (hu : ∀ c, x ∉ (repl c).getD [c]) :
    ∀ b : Bytes, x ∉ escapeWith repl b
  | [] => List.not_mem_nil
  | c :: rest => by
    rw [escapeWith_cons, List.mem_append]
    exact fun h => h.elim (hu c) (not_mem_escapeWith hu rest)

theorem escapeAttr_safe (b : Bytes) : 34 ∉ escapeAttr b ∧ 60 ∉ escapeAttr b :=
  ⟨not_mem_escapeWith (replAttr_cases (P := fun _ u => 34 ∉ u) (by decide) (by decide) (by decide) (by decide)
      (by decide) fun _ _ _ h34 _ _ h => h34 (List.mem_singleton.mp h).symm) b,
    not_mem_escapeWith (fun c => (unitOk_attr c).no_lt) b⟩

theorem escapePcdata_safe (b : Bytes) : 60 ∉ escapePcdata b :=
  not_mem_escapeWith (fun c => (unitOk_pcdata c).no_lt) b

theorem escapeWith_eq_self {repl : Nat → Option Bytes} : ∀ b : Bytes, (∀ c ∈ b, repl c = none) → escapeWith repl b = b
  | [], _ => rfl
  | c :: rest, h => by
    rw [escapeWith_cons, h c List.mem_cons_self,
      escapeWith_eq_self rest fun x hx => h x (List.mem_cons_of_mem _ hx)]
    rfl

theorem escapeWith_amp {repl : Nat → Option Bytes} (hu : ∀ c, AmpUnit ((repl c).getD [c])) (b : Bytes) :
    ∀ pre suf : Bytes, escapeWith repl b = pre ++ 38 :: suf → ∃ e ∈ entityTails, ∃ r, suf = e ++ r := by
  induction b with
  | nil => intro pre suf h; simp [escapeWith] at h
  | cons c rest ih =>
    intro pre suf h
    rw [escapeWith_cons, List.append_eq_append_iff] at h
    -- `pre` covers the unit written for `c`, and the `&` lies in the rest; or `pre` ends inside the unit (`hU`)
    rcases h with ⟨a', _, hE⟩ | ⟨c', hU, hE⟩
    · exact ih a' suf hE
    · cases c' with
      | nil => exact ih [] suf (by simpa using hE.symm)
      | cons x c'' =>
        simp only [List.cons_append, List.cons.injEq] at hE
        obtain ⟨rfl, rfl⟩ := hE
        rcases hu c with hn | ⟨e, he, hue⟩
        · exact absurd (by rw [hU]; simp) hn
        · rw [hU] at hue
          cases pre with
          | nil =>
            simp only [List.nil_append, List.cons.injEq, true_and] at hue
            exact ⟨e, he, _, by rw [hue]⟩
          | cons p pre' =>
            simp only [List.cons_append, List.cons.injEq] at hue
            have : ∀ e ∈ entityTails, 38 ∉ e := by decide
            exact absurd (by rw [← hue.2]; simp) (this e he)

theorem escapeAttr_amp_wellformed (b pre suf : Bytes) (h : escapeAttr b = pre ++ 38 :: suf) :
    ∃ e ∈ entityTails, ∃ r, suf = e ++ r :=
  escapeWith_amp (fun c => (unitOk_attr c).amp) b pre suf h

theorem escapePcdata_amp_wellformed (b pre suf : Bytes) (h : escapePcdata b = pre ++ 38 :: suf) :
    ∃ e ∈ entityTails, ∃ r, suf = e ++ r :=
  escapeWith_amp (fun c => (unitOk_pcdata c).amp) b pre suf h

theorem b64Val_b64Char : ∀ v < 64, b64Val (b64Char v) = some v := by decide

theorem b64Char_cases (v : Nat) :
    (65 ≤ b64Char v ∧ b64Char v ≤ 90) ∨ (97 ≤ b64Char v ∧ b64Char v ≤ 122) ∨ (48 ≤ b64Char v ∧ b64Char v ≤ 57) ∨
      b64Char v = 43 ∨ b64Char v = 47 := by
  rw [b64Char]
  by_cases h1 : v < 26
  · rw [if_pos h1]
    exact .inl ⟨Nat.le_add_right _ _, Nat.add_le_add_left (Nat.le_of_lt_succ h1) 65⟩
  rw [if_neg h1]
  by_cases h2 : v < 52
  · rw [if_pos h2]
    exact .inr (.inl ⟨Nat.le_add_right _ _, Nat.add_le_add_left (Nat.sub_le_sub_right (Nat.le_of_lt_succ h2) 26) 97⟩)
  rw [if_neg h2]
  by_cases h3 : v < 62
  · rw [if_pos h3]
    exact .inr (.inr (.inl ⟨Nat.le_add_right _ _, Nat.add_le_add_left (Nat.sub_le_sub_right (Nat.le_of_lt_succ h3) 52) 48⟩))
  rw [if_neg h3]
  by_cases h4 : v = 62
  · rw [if_pos h4]; exact .inr (.inr (.inr (.inl rfl)))
  · rw [if_neg h4]; exact .inr (.inr (.inr (.inr rfl)))

theorem b64Char_range (v : Nat) : 43 ≤ b64Char v ∧ b64Char v ≤ 122 ∧ b64Char v ≠ 61 := by
  have := b64Char_cases v
  omega

theorem b64Char_ne_pad (v : Nat) (h : v < 64) : b64Char v ≠ 61 := (b64Char_range v).2.2

theorem b64Char_b64Val (c v : Nat) (h : b64Val c = some v) : b64Char v = c ∧ v < 64 := by
  have table : ∀ c < 123, ∀ v ∈ b64Val c, b64Char v = c ∧ v < 64 := by decide
  refine table c (Nat.lt_of_not_le fun hc => ?_) v h
  rw [b64Val, if_neg (by omega), if_neg (by omega), if_neg (by omega), if_neg (by omega), if_neg (by omega)] at h
  cases h

/-! Sextets and octets are both of the form `q * m + r` with `r < m`: `/ m` and `% m` take them apart
(`Arith.mul_add_div_mod`), and `q < n` bounds them by `n * m` (`Arith.mul_add_lt`). -/

theorem b64Decode_b64Encode (d : Bytes) (h : ∀ x ∈ d, x < 256) : b64Decode (b64Encode d) = some d := by
  fun_induction b64Encode d with
  | case1 => rfl
  | case2 a =>
    have ha : a < 256 := h a (by simp)
    rw [b64Decode, if_pos ⟨rfl, rfl⟩, if_pos rfl, b64Val_b64Char _ (Nat.div_lt_of_lt_mul ha),
      b64Val_b64Char (a % 4 * 16) (by omega)]
    simp only [Nat.mul_mod_left, if_true, Nat.mul_div_cancel _ (Nat.zero_lt_succ _), Nat.div_add_mod']
  | case3 a b =>
    have ha : a < 256 := h a (by simp)
    have hb : b / 16 < 16 := Nat.div_lt_of_lt_mul (h b (by simp))
    rw [b64Decode, if_pos ⟨rfl, rfl⟩, if_neg (b64Char_range _).2.2, b64Val_b64Char _ (Nat.div_lt_of_lt_mul ha),
      b64Val_b64Char _ (Arith.mul_add_lt (n := 4) (Nat.mod_lt _ (by decide)) hb), b64Val_b64Char (b % 16 * 4) (by omega)]
    simp only [Nat.mul_mod_left, if_true, (Arith.mul_add_div_mod hb).1, Nat.mul_add_mod_of_lt hb,
      Nat.mul_div_cancel _ (Nat.zero_lt_succ _), Nat.div_add_mod']
  | case4 a b c rest ih =>
    have ha : a < 256 := h a (by simp)
    have hb : b / 16 < 16 := Nat.div_lt_of_lt_mul (h b (by simp))
    have hc : c / 64 < 4 := Nat.div_lt_of_lt_mul (h c (by simp))
    rw [b64Decode, if_neg fun h => (b64Char_range _).2.2 h.2, b64Val_b64Char _ (Nat.div_lt_of_lt_mul ha),
      b64Val_b64Char _ (Arith.mul_add_lt (n := 4) (Nat.mod_lt _ (by decide)) hb),
      b64Val_b64Char _ (Arith.mul_add_lt (n := 16) (Nat.mod_lt _ (by decide)) hc),
      b64Val_b64Char _ (Nat.mod_lt _ (by decide)), ih fun x hx => h x (by simp [hx])]
    simp only [Option.map_some, (Arith.mul_add_div_mod hb).1, Nat.mul_add_mod_of_lt hb, (Arith.mul_add_div_mod hc).1,
      Nat.mul_add_mod_of_lt hc, Nat.div_add_mod']

theorem b64Encode_inj (a b : Bytes) (ha : ∀ x ∈ a, x < 256) (hb : ∀ x ∈ b, x < 256)
    (h : b64Encode a = b64Encode b) : a = b :=
  inj_of_read (f := id) b64Decode_b64Encode a b ha hb h

theorem forall_mem_b64Encode {P : Nat → Prop} (pad : P 61) (char : ∀ v, P (b64Char v)) (d : Bytes) :
    ∀ x ∈ b64Encode d, P x := by
  fun_induction b64Encode d with
  | case1 => exact fun _ h => nomatch h
  | case2 a =>
    simp only [List.forall_mem_cons]
    exact ⟨char _, char _, pad, pad, nofun⟩
  | case3 a b =>
    simp only [List.forall_mem_cons]
    exact ⟨char _, char _, char _, pad, nofun⟩
  | case4 a b c rest ih =>
    simp only [List.forall_mem_cons]
    exact ⟨char _, char _, char _, char _, ih⟩

theorem mem_b64Encode_range (d : Bytes) : ∀ x ∈ b64Encode d, 43 ≤ x ∧ x ≤ 122 :=
  forall_mem_b64Encode (by omega) (fun v => ⟨(b64Char_range v).1, (b64Char_range v).2.1⟩) d

theorem not_mem_b64Encode_60 (d : Bytes) : 60 ∉ b64Encode d := fun h =>
  forall_mem_b64Encode (P := (· ≠ 60)) (by decide) (fun v => by have := b64Char_cases v; omega) d 60 h rfl

theorem b64Encode_eq_nil {d : Bytes} : b64Encode d = [] ↔ d = [] := by
  fun_cases b64Encode d <;> simp

theorem skipWs_eq_self (t : Bytes) (h : ∀ x ∈ t, 43 ≤ x) : skipWs t = t := by
  unfold skipWs
  rw [List.filter_eq_self]
  intro x hx
  have := h x hx
  simp only [isAsciiWs, Bool.not_eq_true', Bool.or_eq_false_iff, decide_eq_false_iff_not]
  omega

theorem b64Encode_no_ws (d : Bytes) : skipWs (b64Encode d) = b64Encode d :=
  skipWs_eq_self _ fun x hx => (mem_b64Encode_range d x hx).1

theorem xmlB64Decode_of_skipWs (t d : Bytes) (hd : ∀ x ∈ d, x < 256) (h : skipWs t = b64Encode d) :
    xmlB64Decode t = some d := by
  unfold xmlB64Decode
  rw [h, b64Decode_b64Encode d hd]

theorem xmlB64Decode_b64Encode (d : Bytes) (hd : ∀ x ∈ d, x < 256) : xmlB64Decode (b64Encode d) = some d :=
  xmlB64Decode_of_skipWs _ d hd (b64Encode_no_ws d)

/-- whatever decodes, re-encodes to the text: decoding is injective, and accepts canonical text only -/
theorem b64Encode_b64Decode (t d : Bytes) (h : b64Decode t = some d) :
    b64Encode d = t ∧ ∀ x ∈ d, x < 256 := by
  fun_induction b64Decode t generalizing d with
  | case1 =>
    cases h
    exact ⟨rfl, nofun⟩
  | case2 a b d' rest hr x y hy hx hy0 =>
    -- the last group `a b = =`: one octet, the low four bits of `y` being zero
    cases h
    obtain ⟨rfl, rfl⟩ := hr
    obtain ⟨rfl, hx'⟩ := b64Char_b64Val _ _ hx
    obtain ⟨rfl, hy'⟩ := b64Char_b64Val _ _ hy
    have hy : y / 16 < 4 := Nat.div_lt_of_lt_mul hy'
    refine ⟨?_, List.forall_mem_singleton.mpr (Arith.mul_add_lt hx' hy)⟩
    rw [b64Encode, (Arith.mul_add_div_mod hy).1, Nat.mul_add_mod_of_lt hy, Nat.div_mul_cancel (Nat.dvd_of_mod_eq_zero hy0)]
  | case5 a b c d' rest hr hc x y z hz hy hx hz0 =>
    -- the last group `a b c =`: two octets, the low two bits of `z` being zero
    cases h
    obtain ⟨rfl, rfl⟩ := hr
    obtain ⟨rfl, hx'⟩ := b64Char_b64Val _ _ hx
    obtain ⟨rfl, hy'⟩ := b64Char_b64Val _ _ hy
    obtain ⟨rfl, hz'⟩ := b64Char_b64Val _ _ hz
    have hy : y / 16 < 4 := Nat.div_lt_of_lt_mul hy'
    have hz : z / 4 < 16 := Nat.div_lt_of_lt_mul hz'
    refine ⟨?_, List.forall_mem_cons.mpr ⟨Arith.mul_add_lt hx' hy,
      List.forall_mem_singleton.mpr (Arith.mul_add_lt (n := 16) (Nat.mod_lt _ (by decide)) hz)⟩⟩
    rw [b64Encode, (Arith.mul_add_div_mod hy).1, Nat.mul_add_mod_of_lt hy, (Arith.mul_add_div_mod hz).1, Nat.mul_add_mod_of_lt hz,
      Nat.div_add_mod', Nat.div_mul_cancel (Nat.dvd_of_mod_eq_zero hz0)]
  | case8 a b c d' rest hr x y z w hw hz hy hx ih =>
    obtain ⟨r, hr', rfl⟩ := Option.map_eq_some_iff.mp h
    obtain ⟨he, hb⟩ := ih r hr'
    obtain ⟨rfl, hx'⟩ := b64Char_b64Val _ _ hx
    obtain ⟨rfl, hy'⟩ := b64Char_b64Val _ _ hy
    obtain ⟨rfl, hz'⟩ := b64Char_b64Val _ _ hz
    obtain ⟨rfl, hw'⟩ := b64Char_b64Val _ _ hw
    have hy : y / 16 < 4 := Nat.div_lt_of_lt_mul hy'
    have hz : z / 4 < 16 := Nat.div_lt_of_lt_mul hz'
    refine ⟨?_, List.forall_mem_cons.mpr ⟨Arith.mul_add_lt hx' hy, List.forall_mem_cons.mpr
      ⟨Arith.mul_add_lt (n := 16) (Nat.mod_lt _ (by decide)) hz, List.forall_mem_cons.mpr
        ⟨Arith.mul_add_lt (n := 4) (Nat.mod_lt _ (by decide)) hw', hb⟩⟩⟩⟩
    rw [b64Encode, (Arith.mul_add_div_mod hy).1, Nat.mul_add_mod_of_lt hy, (Arith.mul_add_div_mod hz).1, Nat.mul_add_mod_of_lt hz,
      (Arith.mul_add_div_mod hw').1, Nat.mul_add_mod_of_lt hw', Nat.div_add_mod', Nat.div_add_mod', he]
  | _ =>
    cases h

theorem b64Decode_inj (t t' d : Bytes) (h : b64Decode t = some d) (h' : b64Decode t' = some d) : t = t' := by
  rw [← (b64Encode_b64Decode t d h).1, ← (b64Encode_b64Decode t' d h').1]

end Rpki.Xml
