/-
  `CertDer.decodeTbs` reads back what `CertEnc.encodeTbs` writes (`TbsCert::encode_ref` /
  `TbsCert::from_constructed`).  The loops over written items (`foldCons_items` …, which the other writers' files use
  too); the field readers as `Der.Reads` facts, so that a reader built from them is handled by rewriting with its parts'
  lemmas; the extension readers, which see the whole value of an OCTET STRING, as plain equations (`x…_enc`).
-/
import Rpki.Model.CertEnc
import Rpki.Proofs.CertDerLemmas
import Rpki.Proofs.IpDerV4
namespace Rpki.CertEnc
open Rpki.Der Rpki.CertDer Rpki.Chain Rpki.Consts

theorem foldCons_items {σ : Type} (tag : Nat) (ht : tag % 32 ≠ 31) (hc : isCons tag = true)
    (f : σ → Bytes → Option σ) :
    ∀ (items : List Bytes) (fuel : Nat) (s : σ), items.length ≤ fuel →
      foldCons tag f fuel ((items.map (tlv tag)).flatten) s = items.foldlM f s := by
  intro items
  induction items with
  | nil => intro fuel s _; cases fuel <;> rfl
  | cons c items ih =>
    intro fuel s hf
    cases fuel with
    | zero => exact absurd hf (Nat.not_succ_le_zero _)
    | succ n =>
      rw [List.map_cons, List.flatten_cons, foldCons, (takeOptCons_reads tag c ht hc).1 _, List.foldlM_cons]
      dsimp only
      cases f s c with
      | none => rfl
      | some s' => exact ih n s' (Nat.le_of_succ_le_succ hf)

theorem foldPrim_items {σ : Type} (tag : Nat) (ht : tag % 32 ≠ 31) (hc : isCons tag = false)
    (f : σ → Bytes → Option σ) :
    ∀ (items : List Bytes) (fuel : Nat) (s : σ), items.length ≤ fuel →
      foldPrim tag f fuel ((items.map (tlv tag)).flatten) s = items.foldlM f s := by
  intro items
  induction items with
  | nil => intro fuel s _; cases fuel <;> rfl
  | cons c items ih =>
    intro fuel s hf
    cases fuel with
    | zero => exact absurd hf (Nat.not_succ_le_zero _)
    | succ n =>
      rw [List.map_cons, List.flatten_cons, foldPrim, (takeOptPrim_reads tag c ht hc).1 _, List.foldlM_cons]
      dsimp only
      cases f s c with
      | none => rfl
      | some s' => exact ih n s' (Nat.le_of_succ_le_succ hf)

theorem foldCons_items' {σ : Type} (tag : Nat) (ht : tag % 32 ≠ 31) (hc : isCons tag = true)
    (f : σ → Bytes → Option σ) (items : List Bytes) (s : σ) :
    foldCons tag f ((items.map (tlv tag)).flatten).length ((items.map (tlv tag)).flatten) s = items.foldlM f s :=
  foldCons_items tag ht hc f items _ s (items_length_le tag items)

theorem foldCons_seqs {σ : Type} (f : σ → Bytes → Option σ) (items : List Bytes) (s : σ) :
    foldCons tagSeq f (seqs items).length (seqs items) s = items.foldlM f s :=
  foldCons_items' tagSeq (by decide) (by decide) f items s

theorem foldCons_one {σ : Type} (tag : Nat) (f : σ → Bytes → Option σ) (c : Bytes) (s : σ)
    (ht : tag % 32 ≠ 31 := by decide) (hc : isCons tag = true := by decide) :
    foldCons tag f (tlv tag c).length (tlv tag c) s = f s c := by
  have := foldCons_items' tag ht hc f [c] s
  rwa [List.map_cons, List.map_nil, List.flatten_cons, List.flatten_nil, List.append_nil, Lists.foldlM_one] at this

theorem extension_extBody (e : Exts) (oid : Bytes) (crit : Bool) (v : Bytes) (ho : oidOk oid = true) :
    extension e (extBody oid crit v) = extValue e oid crit v := by
  unfold extension extBody
  cases crit <;>
    simp (disch := decide) only [List.append_assoc, takeOid_tlv _ ho, takeOptBool_true, takeOptBool_octet,
      takePrim_reads, Bool.false_eq_true, if_false, if_true, List.nil_append, ne_eq, not_true_eq_false]

theorem xBasicConstraints_enc (e : Exts) (ca : Bool) (he : e.basicCa = none) :
    xBasicConstraints e true (tlv tagSeq (if ca then tlv tagBool [255] else [])) =
      some { e with basicCa := some ca } := by
  unfold xBasicConstraints
  simp only [he, Option.isSome_none, Bool.not_true, Bool.false_eq_true, or_self, if_false, takeCons_reads tagSeq _]
  cases ca with
  | true => simp [takeOptBool_true]
  | false => simp [takeOptBool, takeOptPrim]

theorem xSubjectKeyId_enc (e : Exts) (k : Bytes) (hk : k.length = 20) (he : e.ski = none) :
    xSubjectKeyId e false (tlv tagOctetString k) = some { e with ski := some k } := by
  unfold xSubjectKeyId
  simp [he, takePrim_reads tagOctetString k, keyIdOk, hk]

theorem xAuthorityKeyId_enc (e : Exts) (k : Bytes) (hk : k.length = 20) (he : e.aki = none) :
    xAuthorityKeyId e false (tlv tagSeq (tlv 0x80 k)) = some { e with aki := some k } := by
  unfold xAuthorityKeyId
  simp [he, takeCons_reads tagSeq _, takePrim_reads 0x80 k, keyIdOk, hk]

theorem xKeyUsage_enc (e : Exts) (ku : KeyUsage) (he : e.keyUsage = none) :
    xKeyUsage e true (kuValue ku) = some { e with keyUsage := some ku } := by
  unfold xKeyUsage takeBitString kuValue
  cases ku <;>
    simp only [he, Option.isSome_none, Bool.not_true, Bool.false_eq_true, or_self, if_false, takePrim_reads tagBitString _] <;>
    rfl

theorem xExtKeyUsage_enc (e : Exts) (kc : Bytes) (has : Bool) (hne : kc ≠ []) (he : e.eku = none)
    (hf : foldPrim tagOid (fun s o => if oidOk o then some (s || o == oidKpBgpsecRouter) else none) kc.length kc false = some has) :
    xExtKeyUsage e false (tlv tagSeq kc) = some { e with eku := some has, ekuContent := kc } := by
  unfold xExtKeyUsage
  simp [he, takeCons_reads tagSeq kc, hne, hf]

theorem generalNames_gn (accept : Bytes → Bool) (u : Bytes) (ha : accept u = true) (hascii : u.all (· < 128) = true) :
    generalNames accept (gn u) = some u := by
  unfold generalNames gn
  obtain ⟨n, hn⟩ : ∃ n, (tlv 0x86 u).length = n + 1 := ⟨_, rfl⟩
  rw [hn]
  simp only [foldPrim, takeOptPrim_reads 0x86 u, hascii, Bool.not_true, Bool.false_eq_true, if_false, ha, if_true,
    Option.isSome_none]
  cases n <;> simp [foldPrim, takeOptPrim]

theorem xCrlDistributionPoints_enc (e : Exts) (u : Bytes) (hu : rsyncOk u = true) (hascii : u.all (· < 128) = true)
    (he : e.crlUri = none) :
    xCrlDistributionPoints e false (tlv tagSeq (tlv tagSeq (tlv 0xA0 (tlv 0xA0 (gn u))))) =
      some { e with crlUri := some u } := by
  unfold xCrlDistributionPoints
  simp [he, takeCons_reads tagSeq _, takeCons_reads 0xA0 _, generalNames_gn rsyncOk u hu hascii]

theorem xAuthorityInfoAccess_enc (e : Exts) (u : Bytes) (hu : rsyncOk u = true) (hascii : u.all (· < 128) = true)
    (he : e.caIssuer = none) :
    xAuthorityInfoAccess e false (tlv tagSeq (tlv tagSeq (tlv tagOid oidAdCaIssuers ++ gn u))) =
      some { e with caIssuer := some u } := by
  unfold xAuthorityInfoAccess
  simp [he, takeCons_reads tagSeq _, takePrim_reads tagOid oidAdCaIssuers, generalNames_gn rsyncOk u hu hascii]

theorem xCertificatePolicies_enc (e : Exts) (trim : Bool) (he : e.overclaim = none) :
    xCertificatePolicies e true (tlv tagSeq (tlv tagSeq (tlv tagOid (if trim then oidCpResourcesV2 else oidCpResources)))) =
      some { e with overclaim := some trim } := by
  unfold xCertificatePolicies
  cases trim with
  | true =>
    have hne : ¬ oidCpResourcesV2 = oidCpResources := by decide
    simp [he, takeCons_reads tagSeq _, takeOid_tlv oidCpResourcesV2 (by decide), skipAll, hne]
  | false =>
    simp [he, takeCons_reads tagSeq _, takeOid_tlv oidCpResources (by decide), skipAll]

theorem generalName_gn (accept : Bytes → Bool) (u : Bytes) (ha : accept u = true) (hascii : u.all (· < 128) = true) :
    generalName accept (gn u) = some (some u) := by
  unfold generalName gn
  simp [takePrim_reads 0x86 u, hascii, ha]

theorem siaEntry_repo (s : Sia) (u : Bytes) (ha : rsyncOk u = true) (hascii : u.all (· < 128) = true) :
    siaEntry s (adBody oidAdCaRepository u) = some { s with caRepository := updateFirst s.caRepository (some u) } := by
  unfold siaEntry adBody
  rw [(takeOid_tlv oidAdCaRepository (by decide)).1]
  simp [generalName_gn rsyncOk u ha hascii]

theorem siaEntry_mft (s : Sia) (u : Bytes) (ha : rsyncOk u = true) (hascii : u.all (· < 128) = true) :
    siaEntry s (adBody oidAdRpkiManifest u) = some { s with rpkiManifest := updateFirst s.rpkiManifest (some u) } := by
  unfold siaEntry adBody
  rw [(takeOid_tlv oidAdRpkiManifest (by decide)).1]
  simp [show ¬ oidAdRpkiManifest = oidAdCaRepository by decide, generalName_gn rsyncOk u ha hascii]

theorem siaEntry_so (s : Sia) (u : Bytes) (ha : rsyncOk u = true) (hascii : u.all (· < 128) = true) :
    siaEntry s (adBody oidAdSignedObject u) = some { s with signedObject := updateFirst s.signedObject (some u) } := by
  unfold siaEntry adBody
  rw [(takeOid_tlv oidAdSignedObject (by decide)).1]
  simp [show ¬ oidAdSignedObject = oidAdCaRepository by decide, show ¬ oidAdSignedObject = oidAdRpkiManifest by decide,
    generalName_gn rsyncOk u ha hascii]

theorem siaEntry_ntf (s : Sia) (u : Bytes) (ha : httpsOk u = true) (hascii : u.all (· < 128) = true) :
    siaEntry s (adBody oidAdRpkiNotify u) = some { s with rpkiNotify := updateFirst s.rpkiNotify (some u) } := by
  unfold siaEntry adBody
  rw [(takeOid_tlv oidAdRpkiNotify (by decide)).1]
  simp [show ¬ oidAdRpkiNotify = oidAdCaRepository by decide, show ¬ oidAdRpkiNotify = oidAdRpkiManifest by decide,
    show ¬ oidAdRpkiNotify = oidAdSignedObject by decide, generalName_gn httpsOk u ha hascii]

structure SiaOk (s : Sia) : Prop where
  repo : ∀ u, s.caRepository = some u → rsyncOk u = true ∧ u.all (· < 128) = true
  mft : ∀ u, s.rpkiManifest = some u → rsyncOk u = true ∧ u.all (· < 128) = true
  so : ∀ u, s.signedObject = some u → rsyncOk u = true ∧ u.all (· < 128) = true
  ntf : ∀ u, s.rpkiNotify = some u → httpsOk u = true ∧ u.all (· < 128) = true

theorem siaItems_fold (s : Sia) (h : SiaOk s) : (siaItems s).foldlM siaEntry {} = some s := by
  unfold siaItems
  simp only [List.foldlM_append, ← Option.toList_map, Option.bind_eq_bind]
  rw [Lists.foldlM_opt siaEntry _ (fun o => { caRepository := o }) {} s.caRepository rfl
      (fun u hu => siaEntry_repo _ u (h.repo u hu).1 (h.repo u hu).2), Option.bind_some,
    Lists.foldlM_opt siaEntry _ (fun o => { caRepository := s.caRepository, rpkiManifest := o }) _ s.rpkiManifest rfl
      (fun u hu => siaEntry_mft _ u (h.mft u hu).1 (h.mft u hu).2), Option.bind_some,
    Lists.foldlM_opt siaEntry _ (fun o => { caRepository := s.caRepository, rpkiManifest := s.rpkiManifest, signedObject := o })
      _ s.signedObject rfl (fun u hu => siaEntry_so _ u (h.so u hu).1 (h.so u hu).2), Option.bind_some,
    Lists.foldlM_opt siaEntry _ (fun o => { s with rpkiNotify := o }) _ s.rpkiNotify rfl
      (fun u hu => siaEntry_ntf _ u (h.ntf u hu).1 (h.ntf u hu).2)]

theorem seqs_ne_nil (items : List Bytes) (h : items ≠ []) : seqs items ≠ [] := by
  cases items with
  | nil => exact absurd rfl h
  | cons c cs => exact List.cons_ne_nil _ _

theorem takeSia_enc (s : Sia) (h : SiaOk s)
    (hne : s.caRepository.isSome ∨ s.rpkiManifest.isSome ∨ s.signedObject.isSome ∨ s.rpkiNotify.isSome) :
    takeSia (tlv tagSeq (seqs (siaItems s))) = some s := by
  have hitems : siaItems s ≠ [] := by
    intro e
    have hf := siaItems_fold s h
    rw [e] at hf
    cases hf
    rcases hne with h | h | h | h <;> cases h
  unfold takeSia
  rw [(takeCons_reads tagSeq _).2]
  simp only [seqs_ne_nil _ hitems, if_false, foldCons_seqs, siaItems_fold s h]

theorem xSubjectInfoAccess_enc (e : Exts) (s : Sia) (h : SiaOk s)
    (hne : s.caRepository.isSome ∨ s.rpkiManifest.isSome ∨ s.signedObject.isSome ∨ s.rpkiNotify.isSome)
    (he : e.sia = none) :
    xSubjectInfoAccess e false (tlv tagSeq (seqs (siaItems s))) = some { e with sia := some s } := by
  unfold xSubjectInfoAccess
  simp [he, takeSia_enc s h hne]

/-- the blocks of a family, as `IpBlocks::encode_ref` writes them, are read back by the family's reader, and are
canonical, so that the reader's `from_iter` leaves them as they are -/
def BlocksRead (W : Nat) (c : List Blk) : Prop :=
  IpDer.blocksLoop W ((c.map IpDer.encodeBlock).flatten).length ((c.map IpDer.encodeBlock).flatten) = some c ∧
  Canon IpDer.maxAddr c

theorem takeIpChoice_null (W : Nat) : takeIpChoice W (tlv tagNull []) = some .inherit := rfl

theorem takeIpChoice_blocks (W : Nat) (c : List Blk) (h : BlocksRead W c) :
    takeIpChoice W (IpDer.encodeBlocks c) = some (.blocks c) := by
  have hr := (readTlv_reads tagSeq ((c.map IpDer.encodeBlock).flatten)).2
  unfold takeIpChoice IpDer.encodeBlocks
  -- the reader matches the first octet before it calls `readTlv`
  rw [tlv] at hr ⊢
  simp only [hr, h.1, Option.map_some, Chain.fromIter_canon_id IpDer.maxAddr c h.2]
  rfl

/-- a claim as the extension reader's state holds it: a missing family is not written, so it reads as `none` -/
def optClaim : Claim → Option Claim
  | .missing => none
  | c => some c

/-- the claim of one address family is read back by `takeIpChoice W` -/
def ClaimRead (W : Nat) : Claim → Prop
  | .blocks c => BlocksRead W c
  | _ => True

theorem takeIpChoice_famBody (W : Nat) (afi : Bytes) (cl : Claim) (h : ClaimRead W cl) :
    ∀ body, famBody afi cl = some body → ∃ r, body = tlv tagOctetString afi ++ r ∧ takeIpChoice W r = some cl := by
  intro body hb
  cases cl with
  | missing => cases hb
  | inherit => cases hb; exact ⟨_, rfl, takeIpChoice_null W⟩
  | blocks c => cases hb; exact ⟨_, rfl, takeIpChoice_blocks W c h⟩

theorem ipFamily_enc4 (s : Option Claim × Option Claim) (cl : Claim) (body : Bytes)
    (hb : famBody [0, 1] cl = some body) (hs : s.1 = none) (hr : ClaimRead 32 cl) :
    ipFamily s body = some (some cl, s.2) := by
  obtain ⟨r, rfl, h2⟩ := takeIpChoice_famBody 32 _ cl hr body hb
  unfold ipFamily
  simp (disch := decide) only [takePrim_reads, h2, hs, if_true, Option.isSome_none, Bool.false_eq_true, if_false,
    Option.map_some]

theorem ipFamily_enc6 (s : Option Claim × Option Claim) (cl : Claim) (body : Bytes)
    (hb : famBody [0, 2] cl = some body) (hs : s.2 = none) (hr : ClaimRead 128 cl) :
    ipFamily s body = some (s.1, some cl) := by
  obtain ⟨r, rfl, h2⟩ := takeIpChoice_famBody 128 _ cl hr body hb
  have hne : ¬ ([0, 2] : Bytes) = [0, 1] := by decide
  unfold ipFamily
  simp (disch := decide) only [takePrim_reads, h2, hs, hne, if_true, Option.isSome_none, Bool.false_eq_true, if_false,
    Option.map_some]

theorem optClaim_of_famBody (afi : Bytes) (cl : Claim) : (famBody afi cl).map (fun _ => cl) = optClaim cl := by
  cases cl <;> rfl

theorem takeIpFamilies_enc (v4 v6 : Claim) (h4 : ClaimRead 32 v4) (h6 : ClaimRead 128 v6)
    (hp : Cert.isPresent v4 = true ∨ Cert.isPresent v6 = true) :
    takeIpFamilies (tlv tagSeq (seqs (ipItems v4 v6))) = some (optClaim v4, optClaim v6) := by
  have f4 : (famBody [0, 1] v4).toList.foldlM ipFamily (none, none) = some (optClaim v4, none) := by
    have := Lists.foldlM_opt ipFamily id (fun o => (o.map fun _ => v4, none)) (none, none) (famBody [0, 1] v4) rfl
      (fun b hb => ipFamily_enc4 _ v4 b hb rfl h4)
    rwa [Option.map_id, optClaim_of_famBody] at this
  have f6 : (famBody [0, 2] v6).toList.foldlM ipFamily (optClaim v4, none) = some (optClaim v4, optClaim v6) := by
    have := Lists.foldlM_opt ipFamily id (fun o => (optClaim v4, o.map fun _ => v6)) (optClaim v4, none) (famBody [0, 2] v6) rfl
      (fun b hb => ipFamily_enc6 _ v6 b hb rfl h6)
    rwa [Option.map_id, optClaim_of_famBody] at this
  unfold takeIpFamilies
  rw [(takeCons_reads tagSeq _).2]
  simp only [foldCons_seqs, ipItems, List.foldlM_append, f4, f6, Option.bind_eq_bind, Option.bind_some]
  cases v4 with
  | missing =>
    cases v6 with
    | missing => cases hp <;> contradiction
    | _ => rfl
  | _ => rfl

theorem xIpResources_enc (e : Exts) (v2 : Bool) (v4 v6 : Claim) (h4 : ClaimRead 32 v4) (h6 : ClaimRead 128 v6)
    (hp : Cert.isPresent v4 = true ∨ Cert.isPresent v6 = true) (he : e.ip = none) :
    xIpResources e v2 (tlv tagSeq (seqs (ipItems v4 v6))) =
      some { e with ipTrim := some v2, ip := some (optClaim v4, optClaim v6) } := by
  unfold xIpResources
  simp [he, takeIpFamilies_enc v4 v6 h4 h6 hp]

/-- a *written* AS extension is read back; a missing claim writes no extension (`extItems`), hence `False` here and
the alternative `d.asn = .missing` in `WF.asn` -/
def AsRead : Claim → Prop
  | .blocks c => Canon AsDer.maxAs c
  | .inherit => True
  | .missing => False

theorem xAsResources_enc (e : Exts) (v2 : Bool) (cl : Claim) (h : AsRead cl) (he : e.asn = none) :
    xAsResources e v2 (AsDer.encodeExt cl) = some { e with asTrim := some v2, asn := some cl } := by
  unfold xAsResources
  cases cl with
  | missing => exact absurd h (by simp [AsRead])
  | inherit => simp [he, AsDer.decodeExt_encodeExt_inherit]
  | blocks c => simp [he, AsDer.decodeExt_encodeExt_blocks c h]

/-- `n` is one complete value for `Name::take_from`, which returns its own octets (the `++ rest` half of
`Reads takeName n fun rest => some (n, rest)`) -/
def NameOk (n : Bytes) : Prop := ∀ rest, takeName (n ++ rest) = some (n, rest)

/-- the fields of a certificate are in the profile the builder is meant for -/
structure WF (d : Decoded) : Prop where
  serial : X509.VS d.serial
  issuer : NameOk d.issuer
  subject : NameOk d.subject
  nb : X509.validCivil d.notBefore = true ∧ d.notBefore.y ≤ 9999
  na : X509.validCivil d.notAfter = true ∧ d.notAfter.y ≤ 9999
  key : Manifest.bitStringTake (d.keyUnused :: d.keyBits) = some (d.keyUnused, d.keyBits)
  ski : d.ski.length = 20
  aki : ∀ k, d.aki = some k → k.length = 20
  ekuSome : ∀ h, d.eku = some h → d.ekuContent ≠ [] ∧
    foldPrim tagOid (fun s o => if oidOk o then some (s || o == oidKpBgpsecRouter) else none)
      d.ekuContent.length d.ekuContent false = some h
  ekuNone : d.eku = none → d.ekuContent = []
  crl : ∀ u, d.crlUri = some u → rsyncOk u = true ∧ u.all (· < 128) = true
  aia : ∀ u, d.caIssuer = some u → rsyncOk u = true ∧ u.all (· < 128) = true
  sia : SiaOk d.sia
  v4 : ClaimRead 32 d.v4
  v6 : ClaimRead 128 d.v6
  asn : d.asn = .missing ∨ AsRead d.asn
  present : Cert.isPresent d.v4 = true ∨ Cert.isPresent d.v6 = true ∨ Cert.isPresent d.asn = true

/-- the extension reader's state after all of `extItems d` -/
def finalExts (d : Decoded) : Exts :=
  { basicCa := d.basicCa, ski := some d.ski, aki := d.aki, keyUsage := some d.keyUsage, eku := d.eku,
    ekuContent := d.ekuContent, crlUri := d.crlUri, caIssuer := d.caIssuer,
    sia := if d.sia.caRepository.isSome ∨ d.sia.rpkiManifest.isSome ∨ d.sia.signedObject.isSome ∨ d.sia.rpkiNotify.isSome
      then some d.sia else none,
    overclaim := some d.trim,
    ip := if Cert.isPresent d.v4 ∨ Cert.isPresent d.v6 then some (optClaim d.v4, optClaim d.v6) else none,
    ipTrim := if Cert.isPresent d.v4 ∨ Cert.isPresent d.v6 then some d.trim else none,
    asn := if Cert.isPresent d.asn then some d.asn else none,
    asTrim := if Cert.isPresent d.asn then some d.trim else none }

/-! One lemma for each of the eleven extensions: reading what was written (if anything) sets its own fields of
the state, which were unset. `extension_extBody` hands the value to `extValue e oid`, and for a literal identifier
that is the extension's own reader by evaluating the comparisons of identifiers, which `Eq.trans` does when it meets
the reader's lemma; the two resource extensions pick their identifier by `trim`, so their dispatch is a lemma. -/

theorem extValue_ip (e : Exts) (trim c : Bool) (v : Bytes) :
    extValue e (if trim then oidIpAddrBlockV2 else oidIpAddrBlock) c v = xIpResources e trim v := by
  cases trim <;> rfl

theorem extValue_as (e : Exts) (trim c : Bool) (v : Bytes) :
    extValue e (if trim then oidAsIdsV2 else oidAsIds) c v = xAsResources e trim v := by
  cases trim <;> rfl

theorem fold_bc (e : Exts) (ca : Option Bool) (he : e.basicCa = none) :
    ((ca.map bcBody).toList).foldlM extension e = some { e with basicCa := ca } :=
  Lists.foldlM_opt extension bcBody (fun o => { e with basicCa := o }) e ca (by rw [← he])
    (fun a _ => (extension_extBody e _ _ _ (by decide)).trans (xBasicConstraints_enc e a he))

theorem ext_ski (e : Exts) (k : Bytes) (hk : k.length = 20) (he : e.ski = none) :
    extension e (skiBody k) = some { e with ski := some k } :=
  (extension_extBody e _ _ _ (by decide)).trans (xSubjectKeyId_enc e k hk he)

theorem fold_aki (e : Exts) (aki : Option Bytes) (h : ∀ k, aki = some k → k.length = 20) (he : e.aki = none) :
    ((aki.map akiBody).toList).foldlM extension e = some { e with aki := aki } :=
  Lists.foldlM_opt extension akiBody (fun o => { e with aki := o }) e aki (by rw [← he])
    (fun k hk => (extension_extBody e _ _ _ (by decide)).trans (xAuthorityKeyId_enc e k (h k hk) he))

theorem ext_ku (e : Exts) (ku : KeyUsage) (he : e.keyUsage = none) :
    extension e (kuBody ku) = some { e with keyUsage := some ku } :=
  (extension_extBody e _ _ _ (by decide)).trans (xKeyUsage_enc e ku he)

theorem fold_eku (e : Exts) (eku : Option Bool) (kc : Bytes)
    (hs : ∀ h, eku = some h → kc ≠ [] ∧
      foldPrim tagOid (fun s o => if oidOk o then some (s || o == oidKpBgpsecRouter) else none) kc.length kc false = some h)
    (hn : eku = none → kc = []) (he : e.eku = none) (hc : e.ekuContent = []) :
    ((eku.map fun _ => ekuBody kc).toList).foldlM extension e = some { e with eku := eku, ekuContent := kc } := by
  cases eku with
  | none => show some e = some { e with eku := none, ekuContent := kc }; rw [hn rfl, ← he, ← hc]
  | some x =>
    exact (Lists.foldlM_one ..).trans ((extension_extBody e _ _ _ (by decide)).trans
      (xExtKeyUsage_enc e kc x (hs x rfl).1 he (hs x rfl).2))

theorem fold_crl (e : Exts) (u : Option Bytes) (h : ∀ x, u = some x → rsyncOk x = true ∧ x.all (· < 128) = true)
    (he : e.crlUri = none) : ((u.map crlBody).toList).foldlM extension e = some { e with crlUri := u } :=
  Lists.foldlM_opt extension crlBody (fun o => { e with crlUri := o }) e u (by rw [← he])
    (fun x hx => (extension_extBody e _ _ _ (by decide)).trans (xCrlDistributionPoints_enc e x (h x hx).1 (h x hx).2 he))

theorem fold_aia (e : Exts) (u : Option Bytes) (h : ∀ x, u = some x → rsyncOk x = true ∧ x.all (· < 128) = true)
    (he : e.caIssuer = none) : ((u.map aiaBody).toList).foldlM extension e = some { e with caIssuer := u } :=
  Lists.foldlM_opt extension aiaBody (fun o => { e with caIssuer := o }) e u (by rw [← he])
    (fun x hx => (extension_extBody e _ _ _ (by decide)).trans (xAuthorityInfoAccess_enc e x (h x hx).1 (h x hx).2 he))

theorem siaPresent_iff (s : Sia) : siaPresent s = true ↔
    (s.caRepository.isSome ∨ s.rpkiManifest.isSome ∨ s.signedObject.isSome ∨ s.rpkiNotify.isSome) := by
  simp only [siaPresent, Bool.or_eq_true, or_assoc]

theorem fold_sia (e : Exts) (s : Sia) (h : SiaOk s) (he : e.sia = none) :
    (if siaPresent s then [siaBody s] else []).foldlM extension e =
      some { e with sia := (if s.caRepository.isSome ∨ s.rpkiManifest.isSome ∨ s.signedObject.isSome ∨
        s.rpkiNotify.isSome then some s else none) } := by
  refine Lists.foldlM_if extension _ _ e _ (fun hp => ?_) (fun hp => ?_)
  · rw [if_neg (fun x => hp ((siaPresent_iff s).2 x)), ← he]
  · rw [if_pos ((siaPresent_iff s).1 hp)]
    exact (extension_extBody e _ _ _ (by decide)).trans (xSubjectInfoAccess_enc e s h ((siaPresent_iff s).1 hp) he)

theorem ext_cp (e : Exts) (trim : Bool) (he : e.overclaim = none) :
    extension e (cpBody trim) = some { e with overclaim := some trim } :=
  (extension_extBody e _ _ _ (by decide)).trans (xCertificatePolicies_enc e trim he)

theorem fold_ip (e : Exts) (trim : Bool) (v4 v6 : Claim) (h4 : ClaimRead 32 v4) (h6 : ClaimRead 128 v6)
    (he : e.ip = none) (ht : e.ipTrim = none) :
    (if Cert.isPresent v4 || Cert.isPresent v6 then [ipBody trim v4 v6] else []).foldlM extension e =
      some { e with ip := (if Cert.isPresent v4 ∨ Cert.isPresent v6 then some (optClaim v4, optClaim v6) else none),
                    ipTrim := (if Cert.isPresent v4 ∨ Cert.isPresent v6 then some trim else none) } := by
  refine Lists.foldlM_if extension _ _ e _ (fun hp => ?_) (fun hp => ?_)
  · rw [if_neg (fun x => hp (Bool.or_eq_true _ _ ▸ x)), if_neg (fun x => hp (Bool.or_eq_true _ _ ▸ x)), ← he, ← ht]
  · have hp' := Bool.or_eq_true _ _ ▸ hp
    rw [if_pos hp', if_pos hp']
    exact (extension_extBody e _ _ _ (by cases trim <;> decide)).trans
      ((extValue_ip ..).trans (xIpResources_enc e trim v4 v6 h4 h6 hp' he))

theorem fold_as (e : Exts) (trim : Bool) (cl : Claim) (h : cl = .missing ∨ AsRead cl) (he : e.asn = none)
    (ht : e.asTrim = none) :
    (if Cert.isPresent cl then [asBody trim cl] else []).foldlM extension e =
      some { e with asn := (if Cert.isPresent cl then some cl else none),
                    asTrim := (if Cert.isPresent cl then some trim else none) } := by
  refine Lists.foldlM_if extension _ _ e _ (fun hp => ?_) (fun hp => ?_)
  · rw [if_neg hp, if_neg hp, ← he, ← ht]
  · rw [if_pos hp, if_pos hp]
    refine (extension_extBody e _ _ _ (by cases trim <;> decide)).trans
      ((extValue_as ..).trans (xAsResources_enc e trim cl (h.resolve_left ?_) he))
    intro hm; rw [hm] at hp; cases hp

theorem extItems_fold (d : Decoded) (h : WF d) : (extItems d).foldlM extension {} = some (finalExts d) := by
  unfold extItems
  -- the fold is cut at the `++`s and each piece's lemma sets its own fields; the premises "this field is still unset"
  -- are about a state written out as a record, and the simplifier sees them by computing the projection
  simp only [List.foldlM_append, Lists.foldlM_one, fold_bc, ext_ski _ _ h.ski, fold_aki _ _ h.aki, ext_ku,
    fold_eku _ _ _ h.ekuSome h.ekuNone, fold_crl _ _ h.crl, fold_aia _ _ h.aia, fold_sia _ _ h.sia, ext_cp,
    fold_ip _ _ _ _ h.v4 h.v6, fold_as _ _ _ h.asn, Option.bind_eq_bind, Option.bind_some]
  rfl

theorem takeSigAlg_enc : Reads takeSigAlg sigAlgEnc fun rest => some (true, rest) := .of fun rest => by
  unfold takeSigAlg sigAlgEnc
  simp (disch := decide) only [takeCons_reads, takePrim_reads, takeOptNull_null, ne_eq, not_true_eq_false, if_false,
    if_true]

theorem timeTlv_eq (c : X509.Civil) :
    timeTlv c = tlv (SigObj.timeOctet (X509.encodeVaried c).1) (X509.encodeVaried c).2 := by
  unfold timeTlv SigObj.timeOctet
  simp only
  cases (X509.encodeVaried c).1 <;> rfl

theorem takeTime_timeTlv (c : X509.Civil) (h : X509.validCivil c = true ∧ c.y ≤ 9999) :
    Reads Manifest.takeTime (timeTlv c) fun rest => some (c, rest) :=
  timeTlv_eq c ▸ Manifest.takeTime_encodeVaried c h.1 h.2

theorem takeValidityCivil_enc (nb na : X509.Civil)
    (h1 : X509.validCivil nb = true ∧ nb.y ≤ 9999) (h2 : X509.validCivil na = true ∧ na.y ≤ 9999) :
    Reads takeValidityCivil (tlv tagSeq (timeTlv nb ++ timeTlv na)) fun rest => some (nb, na, rest) := .of fun rest => by
  unfold takeValidityCivil
  simp (disch := decide) only [takeCons_reads, takeTime_timeTlv _ h1, takeTime_timeTlv _ h2, if_true]

theorem takePublicKey_enc (alg : KeyAlg) (u : Nat) (bits : Bytes)
    (h : Manifest.bitStringTake (u :: bits) = some (u, bits)) :
    Reads takePublicKey (publicKeyEnc alg u bits) fun rest => some (alg, u, bits, rest) := .of fun rest => by
  have hne : ¬ oidEcPublicKey = oidRsaEncryption := by decide
  unfold takePublicKey publicKeyEnc
  cases alg <;>
    simp (disch := decide) only [takeCons_reads, takeOid_tlv, takeOptNull_null, takePrim_reads,
      takeBitString_enc u bits h, hne, if_true, if_false, and_self]

theorem optClaim_getD (cl : Claim) : (optClaim cl).getD .missing = cl := by
  cases cl <;> rfl

/-- what `decodeTbs` returns for the octets `encodeTbs d` writes: `d` itself, with the algorithm parameter as
`x509_encode` writes it, the instants computed from the calendar times, and what the reader was handed (the outer
parameter, the octets, the signature) -/
def readBack (d : Decoded) (op : Bool) (sig : Bytes) : Decoded :=
  { d with innerParam := true, outerParam := op,
           validity := ⟨civilToEpoch d.notBefore, civilToEpoch d.notAfter⟩,
           tbs := encodeTbs d, signature := sig }

theorem sia_getD (s : Sia) : (if s.caRepository.isSome = true ∨ s.rpkiManifest.isSome = true ∨
    s.signedObject.isSome = true ∨ s.rpkiNotify.isSome = true then some s else none).getD {} = s := by
  by_cases hc : s.caRepository.isSome = true ∨ s.rpkiManifest.isSome = true ∨ s.signedObject.isSome = true ∨
    s.rpkiNotify.isSome = true
  · rw [if_pos hc]; rfl
  · rw [if_neg hc]
    obtain ⟨r, m, o, n⟩ := s
    simp only [not_or, Option.not_isSome_iff_eq_none] at hc
    obtain ⟨rfl, rfl, rfl, rfl⟩ := hc
    rfl

theorem missing_of_not_present {cl : Claim} (h : ¬ Cert.isPresent cl = true) : cl = .missing := by
  cases cl with
  | missing => rfl
  | inherit => exact absurd rfl h
  | blocks c => exact absurd rfl h

theorem finishTbs_final (d : Decoded) (h : WF d) (op : Bool) (raw sig : Bytes) :
    finishTbs d.serial true op d.issuer d.subject d.notBefore d.notAfter d.keyAlg d.keyUnused d.keyBits raw sig
      (finalExts d) =
    some { d with innerParam := true, outerParam := op,
                  validity := ⟨civilToEpoch d.notBefore, civilToEpoch d.notAfter⟩, tbs := raw, signature := sig } := by
  have hm : Cert.isPresent Claim.missing = false := rfl
  unfold finishTbs finalExts
  by_cases hip : Cert.isPresent d.v4 = true ∨ Cert.isPresent d.v6 = true
  · by_cases has : Cert.isPresent d.asn = true
    · simp [hip, has, optClaim_getD, sia_getD]
    · simp [hip, hm, optClaim_getD, sia_getD, missing_of_not_present has]
  · have has : Cert.isPresent d.asn = true := h.present.elim (fun x => absurd (Or.inl x) hip)
      (fun x => x.elim (fun y => absurd (Or.inr y) hip) id)
    simp [has, hm, sia_getD, missing_of_not_present fun x => hip (Or.inl x),
      missing_of_not_present fun x => hip (Or.inr x)]

theorem decodeTbs_encodeTbs (d : Decoded) (h : WF d) (op : Bool) (sig : Bytes) :
    decodeTbs (encodeTbs d) op sig = some (readBack d op sig) := by
  have hfin := finishTbs_final d h op (encodeTbs d) sig
  unfold decodeTbs
  rw [encodeTbs, (takeCons_reads tagSeq _).2, ← encodeTbs]
  simp (disch := decide) only [List.append_assoc, takeCons_reads, takePrim_reads,
    (X509.der_roundtrip' d.serial h.serial).1, takeSigAlg_enc, h.issuer _, takeValidityCivil_enc _ _ h.nb h.na,
    h.subject _, takePublicKey_enc _ _ _ h.key, foldCons_seqs, extItems_fold d h, hfin,
    ne_eq, not_true_eq_false, or_self, if_false]
  rfl

theorem claimRead128_of_canon (cl : Claim) (h : ClaimCanon IpDer.maxAddr cl) : ClaimRead 128 cl := by
  cases cl with
  | missing => trivial
  | inherit => trivial
  | blocks c => exact ⟨IpDer.blocksLoop_encode c _ (IpDer.length_le_encodeBlocks c) h.1, h⟩

/-- every canonical chain of IPv4 blocks (bounds aligned to the low 96 bits of the 128-bit representation) is
read back by the IPv4 reader, whose length limit is 32 -/
theorem claimRead32_of_v4 (cl : Claim) (h : ClaimCanon IpDer.maxAddr cl)
    (hs : ∀ c, cl = .blocks c → ∀ b ∈ c, IpDer.V4Shaped b) : ClaimRead 32 cl := by
  cases cl with
  | missing => trivial
  | inherit => trivial
  | blocks c => exact ⟨IpDer.blocksLoop32_encode c _ (IpDer.length_le_encodeBlocks c) h.1 (hs c rfl), h⟩

theorem asRead_of_canon (cl : Claim) (h : ClaimCanon AsDer.maxAs cl) (hp : cl ≠ .missing) : AsRead cl := by
  cases cl with
  | missing => exact absurd rfl hp
  | inherit => trivial
  | blocks c => exact h

end Rpki.CertEnc
