/-
The `andOr` table of the drop decision (`andOr_iff`), and the JSON tree: a SLURM file is read back from its own
tree (`fromJson ∘ toJson`), provided its values are what the constructors and the deserialiser guarantee (`WF`:
numbers below 2^32, SKIs of 20 octets, prefixes that `MaxLenPrefix::new` accepts).
-/
import Rpki.Model.Slurm
import Rpki.Proofs.ListLemmas
namespace Rpki.Slurm
open Rpki.Consts Rpki.Prefix

theorem andOr_iff {α β : Type} (a : Option α) (b : Option β) (p : α → Bool) (q : β → Bool) :
    andOr (a.map p) (b.map q) = true ↔
      (a.isSome ∨ b.isSome) ∧ (∀ x, a = some x → p x = true) ∧ (∀ y, b = some y → q y = true) := by
  cases a <;> cases b <;> simp [andOr]

def okU32 (n : Nat) : Prop := n < U32
def okOptU32 : Option Nat → Prop | some n => n < U32 | none => True

def PrefixFilter.WF (f : PrefixFilter) : Prop := okOptU32 f.asn
def BgpsecFilter.WF (f : BgpsecFilter) : Prop := okOptU32 f.asn ∧ (∀ s, f.ski = some s → s.length = 20)
def AspaFilter.WF (f : AspaFilter) : Prop := okOptU32 f.customer
def Filters.WF (f : Filters) : Prop :=
  (∀ x ∈ f.pfs, x.WF) ∧ (∀ x ∈ f.bgpsec, x.WF) ∧ (∀ l, f.aspa = some l → ∀ x ∈ l, x.WF)

def PrefixAssertion.WF (a : PrefixAssertion) : Prop :=
  a.asn < U32 ∧ mlpNew a.mlp.pfx a.mlp.ml = .ok a.mlp ∧ (∀ m, a.mlp.ml = some m → m < 256)
def BgpsecAssertion.WF (a : BgpsecAssertion) : Prop := a.asn < U32 ∧ a.ski.length = 20
def AspaAssertion.WF (a : AspaAssertion) : Prop :=
  a.customer < U32 ∧ (∀ p ∈ a.providers, p < U32) ∧ a.providers.length ≤ aspaMaxCount
def Assertions.WF (a : Assertions) : Prop :=
  (∀ x ∈ a.pas, x.WF) ∧ (∀ x ∈ a.bgpsec, x.WF) ∧ (∀ l, a.aspa = some l → ∀ x ∈ l, x.WF)
def SlurmFile.WF (f : SlurmFile) : Prop := (f.version = 1 ∨ f.version = 2) ∧ f.filters.WF ∧ f.assertions.WF

theorem lookup_append (k : Key) (a b : Obj) : lookup k (a ++ b) = (lookup k a).or (lookup k b) := by
  induction a with
  | nil => rfl
  | cons e a ih =>
    obtain ⟨k', v⟩ := e
    rw [List.cons_append, lookup, lookup, ih]
    split <;> rfl

theorem lookup_optField (k k' : Key) (v : Option Json) :
    lookup k (optField k' v) = if k' = k then v else none := by
  cases v
  · exact (ite_self _).symm
  · rfl

theorem countKey_le_one (k : Key) (l : Obj) (hn : (l.map Prod.fst).Nodup) : countKey k l ≤ 1 := by
  induction l with
  | nil => exact Nat.zero_le _
  | cons e l ih =>
    rw [List.map_cons, List.nodup_cons] at hn
    unfold countKey at *
    rw [List.filter_cons]
    split
    · rename_i h
      have hk : e.1 = k := of_decide_eq_true h
      have : l.filter (fun e => decide (e.1 = k)) = [] :=
        List.filter_eq_nil_iff.2 fun x hx hxk =>
          hn.1 (hk ▸ (of_decide_eq_true hxk) ▸ List.mem_map_of_mem hx)
      rw [this]; exact Nat.le_refl _
    · exact ih hn.2

theorem keysOk_of_sublist (allowed : List Key) (deny : Bool) (l : Obj)
    (hs : (l.map Prod.fst).Sublist allowed) (hn : allowed.Nodup) : keysOk allowed deny l = true := by
  unfold keysOk
  rw [Bool.and_eq_true, List.all_eq_true, Bool.or_eq_true, List.all_eq_true]
  exact ⟨fun k _ => decide_eq_true (countKey_le_one k l (hn.sublist hs)),
    .inr fun e he => List.contains_iff_mem.2 (hs.subset (List.mem_map_of_mem he))⟩

theorem optField_keys (k : Key) (v : Option Json) : ((optField k v).map Prod.fst).Sublist [k] := by
  cases v
  · exact List.nil_sublist _
  · exact List.Sublist.refl _

theorem keys_snoc {l : Obj} {ks : List Key} (h : (l.map Prod.fst).Sublist ks) (k : Key)
    (v : Option Json) : ((l ++ optField k v).map Prod.fst).Sublist (ks ++ [k]) := by
  rw [List.map_append]
  exact h.append (optField_keys k v)

theorem optPfx_map (v : Option Pfx) : optPfx (v.map .pfx) = some v := by cases v <;> rfl

theorem optStr_map (v : Option Bytes) : optStr (v.map .str) = some v := by cases v <;> rfl

theorem optU32_map (v : Option Nat) (h : okOptU32 v) : optU32 (v.map .num) = some v := by
  cases v
  · rfl
  · exact if_pos h

theorem reqU32_num (n : Nat) (h : n < U32) : reqU32 (some (.num n)) = some n := if_pos h

theorem optSki_map (v : Option Bytes) (h : ∀ s, v = some s → s.length = 20) :
    optSki (v.map .bytes) = some v := by
  cases v
  · rfl
  · exact congrArg (Option.map some) (if_pos (h _ rfl))

attribute [local simp] lookup_append lookup_optField optPfx_map optStr_map

theorem PrefixFilter.roundtrip (f : PrefixFilter) (h : f.WF) : PrefixFilter.fromJson f.toJson = some f := by
  obtain ⟨p, a, c⟩ := f
  unfold PrefixFilter.toJson PrefixFilter.fromJson
  dsimp only
  -- `by exact`: elaborated after the rewrite has found `keysOk [..] _ _`, else the key list is fixed as `[_] ++ [_] ++ [_]`
  rw [keysOk_of_sublist _ _ _ (by exact keys_snoc (keys_snoc (optField_keys _ _) _ _) _ _) (by decide)]
  simp [optU32_map _ h]

theorem BgpsecFilter.roundtrip (f : BgpsecFilter) (h : f.WF) : BgpsecFilter.fromJson f.toJson = some f := by
  obtain ⟨s, a, c⟩ := f
  unfold BgpsecFilter.toJson BgpsecFilter.fromJson
  dsimp only
  rw [keysOk_of_sublist _ _ _ (by exact keys_snoc (keys_snoc (optField_keys _ _) _ _) _ _) (by decide)]
  simp [optSki_map _ h.2, optU32_map _ h.1]

theorem AspaFilter.roundtrip (f : AspaFilter) (h : f.WF) : AspaFilter.fromJson f.toJson = some f := by
  obtain ⟨a, c⟩ := f
  unfold AspaFilter.toJson AspaFilter.fromJson
  dsimp only
  rw [keysOk_of_sublist _ _ _ (by exact keys_snoc (optField_keys _ _) _ _) (by decide)]
  simp [optU32_map _ h]

theorem reqArr_map {α} (f : Json → Option α) (g : α → Json) (l : List α)
    (h : ∀ x ∈ l, f (g x) = some x) : reqArr f (some (.arr (l.map g))) = some l :=
  Lists.mapM_map_some f g l h

theorem optArrFrom_optArr {α} (f : Json → Option α) (g : α → Json) (o : Option (List α))
    (h : ∀ l, o = some l → ∀ x ∈ l, f (g x) = some x) : optArrFrom f (some (optArr g o)) = some o := by
  cases o with
  | none => rfl
  | some l => exact congrArg (Option.map some) (Lists.mapM_map_some f g l (h l rfl))

theorem Filters.roundtrip (f : Filters) (h : f.WF) : Filters.fromJson f.toJson = some f := by
  obtain ⟨p, b, a⟩ := f
  obtain ⟨h1, h2, h3⟩ := h
  unfold Filters.toJson Filters.fromJson
  dsimp only
  rw [keysOk_of_sublist _ _ _ (by exact List.Sublist.refl _) (by decide)]
  simp [lookup, reqArr_map _ _ p fun x hx => x.roundtrip (h1 x hx),
    reqArr_map _ _ b fun x hx => x.roundtrip (h2 x hx),
    optArrFrom_optArr _ _ a fun l hl x hx => x.roundtrip (h3 l hl x hx)]

theorem PrefixAssertion.roundtrip (a : PrefixAssertion) (h : a.WF) : PrefixAssertion.fromJson a.toJson = some a := by
  obtain ⟨⟨p, ml⟩, asn, c⟩ := a
  obtain ⟨h1, h2, h3⟩ := h
  unfold PrefixAssertion.toJson PrefixAssertion.fromJson
  dsimp only at h1 h2 h3 ⊢
  rw [keysOk_of_sublist _ _ _ (by exact keys_snoc (keys_snoc (List.Sublist.refl _) _ _) _ _) (by decide)]
  cases ml with
  | none => cases c <;> simp [lookup, reqU32_num _ h1, h2]
  | some m => cases c <;> simp [lookup, reqU32_num _ h1, h3 m rfl, h2]

theorem BgpsecAssertion.roundtrip (a : BgpsecAssertion) (h : a.WF) : BgpsecAssertion.fromJson a.toJson = some a := by
  obtain ⟨asn, s, k, c⟩ := a
  obtain ⟨h1, h2⟩ := h
  unfold BgpsecAssertion.toJson BgpsecAssertion.fromJson
  dsimp only at h1 h2 ⊢
  rw [keysOk_of_sublist _ _ _ (by exact keys_snoc (List.Sublist.refl _) _ _) (by decide)]
  simp [lookup, reqU32_num _ h1, reqSki, h2]

theorem AspaAssertion.roundtrip (a : AspaAssertion) (h : a.WF) : AspaAssertion.fromJson a.toJson = some a := by
  obtain ⟨cu, ps, c⟩ := a
  obtain ⟨h1, h2, h3⟩ := h
  unfold AspaAssertion.toJson AspaAssertion.fromJson
  dsimp only at h1 h2 h3 ⊢
  rw [keysOk_of_sublist _ _ _ (by exact keys_snoc (List.Sublist.refl _) _ _) (by decide)]
  cases c <;> simp [lookup, reqU32_num _ h1, h3,
    reqArr_map (fun j => reqU32 (some j)) Json.num ps fun x hx => reqU32_num x (h2 x hx)]

theorem Assertions.roundtrip (f : Assertions) (h : f.WF) : Assertions.fromJson f.toJson = some f := by
  obtain ⟨p, b, a⟩ := f
  obtain ⟨h1, h2, h3⟩ := h
  unfold Assertions.toJson Assertions.fromJson
  dsimp only
  rw [keysOk_of_sublist _ _ _ (by exact List.Sublist.refl _) (by decide)]
  simp [lookup, reqArr_map _ _ p fun x hx => x.roundtrip (h1 x hx),
    reqArr_map _ _ b fun x hx => x.roundtrip (h2 x hx),
    optArrFrom_optArr _ _ a fun l hl x hx => x.roundtrip (h3 l hl x hx)]

theorem SlurmFile.roundtrip (f : SlurmFile) (h : f.WF) : SlurmFile.fromJson f.toJson = some f := by
  obtain ⟨v, fl, a⟩ := f
  obtain ⟨h1, h2, h3⟩ := h
  unfold SlurmFile.toJson SlurmFile.fromJson
  dsimp only at h1 ⊢
  rw [keysOk_of_sublist _ _ _ (by exact List.Sublist.refl _) (by decide)]
  simp [lookup, fl.roundtrip h2, a.roundtrip h3, h1]

end Rpki.Slurm
