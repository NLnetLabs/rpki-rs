/-
The invariant of `Https` (checked characters, the scheme, `pathIdx` at the first slash after the authority):
`from_bytes` accepts exactly the values that have it, `join` and `parent` keep it, and the text recomposes
from the accessors; `==` as `EqAt`.
-/
import Rpki.Proofs.UriLemmas
namespace Rpki.Uri
open Rpki.Consts

def Https.Inv (u : Https) : Prop :=
  checkUriAscii u.uri = true ∧ startsWithIgnoreCase u.uri httpsScheme = true ∧
  u.pathIdx = findSlashFrom u.uri 8

theorem Https.fromBytes_ok_iff (b : Bytes) (u : Https) :
    Https.fromBytes b = .ok u ↔ u.uri = b ∧ u.Inv := by
  unfold Https.fromBytes Https.Inv
  cases hc : checkUriAscii b with
  | false => exact ⟨(fun h => nomatch h), fun ⟨e, hc', _⟩ => by rw [e, hc] at hc'; cases hc'⟩
  | true =>
    rw [if_neg (by decide)]
    cases hs : startsWithIgnoreCase b httpsScheme with
    | false => exact ⟨(fun h => nomatch h), fun ⟨e, _, hs', _⟩ => by rw [e, hs] at hs'; cases hs'⟩
    | true =>
      rw [if_pos rfl]
      constructor
      · intro h; cases h; exact ⟨rfl, hc, hs, rfl⟩
      · rintro ⟨rfl, _, _, hp⟩
        exact congrArg (fun i => Except.ok (Https.mk u.uri i)) hp.symm

theorem Https.Inv.length_ge {u : Https} (h : u.Inv) : 8 ≤ u.uri.length :=
  (startsWithIgnoreCase_iff.1 h.2.1).1

theorem findSlashFrom_le (b : Bytes) (s : Nat) (hs : s ≤ b.length) :
    s ≤ findSlashFrom b s ∧ findSlashFrom b s ≤ b.length := by
  unfold findSlashFrom
  cases h : (b.drop s).findIdx? (· = slash) with
  | none => exact ⟨hs, Nat.le_refl _⟩
  | some i =>
    have hi := (List.findIdx?_eq_some_iff_getElem.1 h).1
    rw [List.length_drop] at hi
    exact ⟨Nat.le_add_right _ _, Nat.le_of_lt (Nat.add_lt_of_lt_sub' hi)⟩

theorem Https.Inv.pathIdx_le {u : Https} (h : u.Inv) : 8 ≤ u.pathIdx ∧ u.pathIdx ≤ u.uri.length :=
  h.2.2 ▸ findSlashFrom_le u.uri 8 h.length_ge

theorem Https.path_eq_nil_iff {u : Https} (h : u.Inv) :
    u.path = [] ↔ (u.uri.drop 8).findIdx? (· = slash) = none := by
  rw [Https.path, List.drop_eq_nil_iff, h.2.2, findSlashFrom]
  cases hf : (u.uri.drop 8).findIdx? (· = slash) with
  | none => exact ⟨fun _ => rfl, fun _ => Nat.le_refl _⟩
  | some i =>
    have hi := (List.findIdx?_eq_some_iff_getElem.1 hf).1
    rw [List.length_drop] at hi
    exact ⟨fun hle => absurd hle (Nat.not_le.2 (Nat.add_lt_of_lt_sub' hi)), fun e => nomatch e⟩

/-- `join` checks the characters of the path and appends it, after a slash unless the path of the base
ends in one (also when that path is empty: `httpsJoinSlashWhenEmpty`) -/
theorem Https.join_ok_iff {u v : Https} {x : Bytes} :
    u.join x = .ok v ↔ checkUriAscii x = true ∧
      v = { u with uri := u.uri ++ (if endsWithSlash u.path then [] else [slash]) ++ x } := by
  have hflag : httpsJoinSlashWhenEmpty = true := rfl
  rw [Https.join, hflag, if_pos rfl]
  cases hc : checkUriAscii x with
  | false => exact ⟨nofun, nofun⟩
  | true =>
    rw [if_neg (by decide)]
    cases endsWithSlash u.path <;>
      exact ⟨fun h => ⟨rfl, (Except.ok.inj h).symm⟩, fun h => congrArg Except.ok h.2.symm⟩

/-- `join` keeps the invariant (this needs the separating slash also for a path-less base). -/
theorem Https.join_inv (u v : Https) (p : Bytes) (h : u.Inv) (hj : u.join p = .ok v) : v.Inv := by
  obtain ⟨hc, rfl⟩ := Https.join_ok_iff.1 hj
  have hl := h.length_ge
  obtain ⟨hch, hs, hpi⟩ := h
  refine ⟨?_, by rw [List.append_assoc]; exact startsWithIgnoreCase_append _ hs, ?_⟩
  · show checkUriAscii (u.uri ++ _ ++ p) = true
    rw [checkUriAscii_append, checkUriAscii_append, hch, hc]
    split <;> rfl
  · show u.pathIdx = findSlashFrom (u.uri ++ _ ++ p) 8
    rw [hpi, findSlashFrom, findSlashFrom, List.append_assoc, List.drop_append_of_le_length hl,
      List.findIdx?_append]
    cases hf : (u.uri.drop 8).findIdx? (· = slash) with
    | some i => rfl
    | none =>
      rw [(Https.path_eq_nil_iff ⟨hch, hs, hpi⟩).2 hf,
        if_neg (show ¬ endsWithSlash ([] : Bytes) = true by decide), List.singleton_append,
        List.findIdx?_cons, if_pos (decide_eq_true rfl), List.length_drop, Option.none_or,
        Option.map_some, Nat.zero_add]
      exact (Nat.add_sub_cancel' hl).symm

theorem Https.join_pathIdx {u v : Https} {p : Bytes} (hj : u.join p = .ok v) : v.pathIdx = u.pathIdx := by
  rw [(Https.join_ok_iff.1 hj).2]

theorem Https.eq_iff (u o : Https) :
    u.eq o = true ↔ EqAt u.uri u.pathIdx o.uri o.pathIdx := by
  rw [EqAt, Https.eq, Bool.and_eq_true, Bool.and_eq_true, beq_iff_eq, beq_iff_eq, eqIgnoreCase_iff, and_assoc]
  exact and_congr_right fun e => by rw [e]

theorem Https.recompose_of_inv {u : Https} (h : u.Inv) :
    u.uri = u.uri.take 8 ++ (u.authority ++ u.path) := by
  have ⟨h1, _⟩ := h.pathIdx_le
  have e : u.uri.drop u.pathIdx = (u.uri.drop 8).drop (u.pathIdx - 8) := by
    rw [List.drop_drop, Nat.add_sub_cancel' h1]
  rw [Https.authority, Https.path, slice, List.drop_take, e, List.take_append_drop,
    List.take_append_drop]

theorem findSlashFrom_take (b : Bytes) (n : Nat) (hn : findSlashFrom b 8 ≤ n) :
    findSlashFrom (b.take n) 8 = findSlashFrom b 8 := by
  unfold findSlashFrom at *
  rw [List.drop_take, List.findIdx?_take]
  cases hf : (b.drop 8).findIdx? (· = slash) with
  | none =>
    rw [hf] at hn
    show (b.take n).length = b.length
    rw [List.take_of_length_le hn]
  | some i =>
    rw [hf] at hn
    replace hn : 8 + i ≤ n := hn
    have hi := (List.findIdx?_eq_some_iff_getElem.1 hf).1
    rw [List.length_drop] at hi
    rw [Option.bind_some, Option.guard]
    rcases Nat.lt_or_eq_of_le hn with hlt | rfl
    · rw [decide_eq_true (Nat.lt_sub_of_add_lt (Nat.add_comm 8 i ▸ hlt))]; rfl
    · rw [Nat.add_sub_cancel_left, decide_eq_false (Nat.lt_irrefl i)]
      exact List.length_take_of_le (Nat.le_of_lt (Nat.add_lt_of_lt_sub' hi))

theorem Https.parent_shape (u v : Https) (hp : u.parent = some v) :
    ∃ k, v = { u with uri := u.uri.take (u.pathIdx + k) } := by
  revert hp
  fun_cases Https.parent u <;> intro hp <;> cases hp
  rename_i len
  subst len
  split
  · exact ⟨_ + 1, rfl⟩
  · exact ⟨0, rfl⟩

theorem Https.parent_inv (u v : Https) (h : u.Inv) (hp : u.parent = some v) :
    v.Inv ∧ v.pathIdx = u.pathIdx := by
  obtain ⟨k, rfl⟩ := Https.parent_shape u v hp
  have ⟨h8, _⟩ := h.pathIdx_le
  obtain ⟨hch, hs, hpi⟩ := h
  refine ⟨⟨List.all_eq_true.2 fun x hx => List.all_eq_true.1 hch x (List.mem_of_mem_take hx),
    startsWithIgnoreCase_take _ (Nat.le_trans h8 (Nat.le_add_right _ _)) hs, ?_⟩, rfl⟩
  show u.pathIdx = findSlashFrom (u.uri.take (u.pathIdx + k)) 8
  rw [findSlashFrom_take _ _ (hpi ▸ Nat.le_add_right _ _)]
  exact hpi

end Rpki.Uri
