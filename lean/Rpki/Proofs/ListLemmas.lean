/-
  Facts about lists, options and `if` that belong to no protocol and that several of them use: insertion
  into a sorted list, `mapM` into `Option`, `takeWhile` / `dropWhile` up to the first element that fails the
  test, what an `if` that returned a value says of its guard, small permutations, lists mapped injectively,
  folds over at most one element and the fold that collects, a list cut at an index.
-/
namespace Rpki.Lists
universe u v w

/-- The insertion step of the model's insertion sorts, which differ in the test `r` only. -/
def insertBy {α : Type} (r : α → α → Prop) [DecidableRel r] (x : α) : List α → List α
  | [] => [x]
  | y :: ys => if r x y then x :: y :: ys else y :: insertBy r x ys

theorem perm_insertBy {α : Type} (r : α → α → Prop) [DecidableRel r] (x : α) :
    ∀ l : List α, (insertBy r x l).Perm (x :: l)
  | [] => .refl _
  | y :: ys => by
    unfold insertBy
    split
    · exact .refl _
    · exact ((perm_insertBy r x ys).cons y).trans (.swap x y ys)

theorem mem_insertBy {α : Type} (r : α → α → Prop) [DecidableRel r] (x : α) (l : List α) (y : α) :
    y ∈ insertBy r x l ↔ y = x ∨ y ∈ l :=
  (perm_insertBy r x l).mem_iff.trans List.mem_cons

/-- `s` is the order the list is sorted by: `r` and its failure both decide it, in opposite directions. -/
theorem pairwise_insertBy {α : Type} (r s : α → α → Prop) [DecidableRel r] (x : α)
    (h1 : ∀ y, r x y → s x y) (h2 : ∀ y, ¬ r x y → s y x) (tr : ∀ {a b c}, s a b → s b c → s a c) :
    ∀ l : List α, l.Pairwise s → (insertBy r x l).Pairwise s
  | [], _ => List.pairwise_singleton _ _
  | y :: ys, hs => by
    obtain ⟨hy, hys⟩ := List.pairwise_cons.1 hs
    unfold insertBy
    split
    · rename_i h
      exact List.pairwise_cons.2
        ⟨fun z hz => (List.mem_cons.1 hz).elim (· ▸ h1 y h) fun e => tr (h1 y h) (hy z e), hs⟩
    · rename_i h
      exact List.pairwise_cons.2 ⟨fun z hz => ((mem_insertBy r x ys z).1 hz).elim (· ▸ h2 y h) (hy z),
        pairwise_insertBy r s x h1 h2 tr ys hys⟩

theorem mapM_eq_some_iff {α : Type u} {β : Type v} (f : α → Option β) : ∀ (l : List α) (r : List β),
    l.mapM f = some r ↔ l.map f = r.map some
  | [], r => by
    rw [List.mapM_nil, List.map_nil]
    cases r
    · exact ⟨fun _ => rfl, fun _ => rfl⟩
    · exact iff_of_false nofun nofun
  | x :: xs, r => by
    rw [List.mapM_cons, List.map_cons]
    simp only [Option.bind_eq_bind, Option.bind_eq_some_iff, Option.pure_def, Option.some.injEq]
    constructor
    · rintro ⟨v, hv, vs, hvs, rfl⟩
      rw [hv, (mapM_eq_some_iff f xs vs).1 hvs, List.map_cons]
    · intro h
      cases r with
      | nil => cases h
      | cons v vs =>
        obtain ⟨hv, hvs⟩ := List.cons.inj h
        exact ⟨v, hv, vs, (mapM_eq_some_iff f xs vs).2 hvs, rfl⟩

theorem mapM_map_eq_some {α : Type u} {β : Type v} {γ : Type w} (f : β → Option γ) (g : α → β) (k : α → γ) (l : List α)
    (h : ∀ x ∈ l, f (g x) = some (k x)) : (l.map g).mapM f = some (l.map k) := by
  rw [mapM_eq_some_iff, List.map_map, List.map_map]
  exact List.map_congr_left h

theorem mapM_map_some {α : Type u} {β : Type v} (f : β → Option α) (g : α → β) (l : List α)
    (h : ∀ x ∈ l, f (g x) = some x) : (l.map g).mapM f = some l := by
  rw [mapM_map_eq_some f g id l h, List.map_id]

theorem mapM_map_some_map {α : Type u} {β : Type v} {γ : Type w} (f : β → Option α) (g : α → β) (k : α → γ) (l : List α)
    (h : ∀ x ∈ l, (f (g x)).map k = some (k x)) :
    ((l.map g).mapM f).map (·.map k) = some (l.map k) := by
  induction l with
  | nil => rfl
  | cons x l ih =>
    obtain ⟨v, e1, hv⟩ := Option.map_eq_some_iff.1 (h x List.mem_cons_self)
    obtain ⟨vs, e2, hvs⟩ := Option.map_eq_some_iff.1 (ih fun y hy => h y (List.mem_cons_of_mem _ hy))
    rw [List.map_cons, List.mapM_cons, e1, e2, List.map_cons, ← hv, ← hvs]
    rfl

theorem mapM_none_of_mem {α : Type u} {β : Type v} (f : α → Option β) (l : List α) (x : α) (hx : x ∈ l) (hf : f x = none) :
    l.mapM f = none := by
  cases h : l.mapM f with
  | none => rfl
  | some r =>
    have : none ∈ r.map some := (mapM_eq_some_iff f l r).1 h ▸ hf ▸ List.mem_map_of_mem hx
    obtain ⟨_, _, e⟩ := List.mem_map.1 this
    cases e

theorem mapM_some {α : Type u} {β : Type v} (f : α → Option β) (l : List α) (r : List β) (h : l.mapM f = some r) :
    r.length = l.length ∧ ∀ y ∈ r, ∃ x, f x = some y := by
  have e := (mapM_eq_some_iff f l r).1 h
  refine ⟨by rw [← List.length_map (f := some), ← e, List.length_map], fun y hy => ?_⟩
  obtain ⟨x, _, hx⟩ := List.mem_map.1 (e ▸ List.mem_map_of_mem hy : some y ∈ l.map f)
  exact ⟨x, hx⟩

theorem takeWhile_append_of_head {α : Type u} {p : α → Bool} {a l : List α} (ha : ∀ x ∈ a, p x = true)
    (h : ∀ c, l.head? = some c → p c = false) : (a ++ l).takeWhile p = a := by
  rw [List.takeWhile_append_of_pos ha]
  cases l with
  | nil => exact List.append_nil a
  | cons c t => rw [List.takeWhile_cons_of_neg (Bool.eq_false_iff.mp (h c rfl)), List.append_nil]

theorem takeWhile_append_stop {α : Type u} {p : α → Bool} (a : List α) (c : α) (r : List α)
    (ha : ∀ x ∈ a, p x = true) (hc : p c = false) : (a ++ c :: r).takeWhile p = a :=
  takeWhile_append_of_head ha fun _ e => Option.some.inj e ▸ hc

theorem dropWhile_of_head {α : Type u} {p : α → Bool} {l : List α} (h : ∀ c, l.head? = some c → p c = false) :
    l.dropWhile p = l := by
  cases l with
  | nil => rfl
  | cons c t => exact List.dropWhile_cons_of_neg (Bool.eq_false_iff.mp (h c rfl))

theorem ite_eq_cases {α : Sort u} {p : Prop} [Decidable p] {x y z : α} (h : (if p then x else y) = z) :
    p ∧ x = z ∨ ¬ p ∧ y = z := by
  by_cases hp : p
  · rw [if_pos hp] at h; exact Or.inl ⟨hp, h⟩
  · rw [if_neg hp] at h; exact Or.inr ⟨hp, h⟩

theorem ite_eq_right {α : Sort u} {p : Prop} [Decidable p] {x y z : α} (h : (if p then x else y) = z) (hx : x ≠ z) :
    ¬ p ∧ y = z :=
  (ite_eq_cases h).resolve_left fun h => hx h.2

theorem ite_eq_left {α : Sort u} {p : Prop} [Decidable p] {x y z : α} (h : (if p then x else y) = z) (hy : y ≠ z) :
    p ∧ x = z :=
  (ite_eq_cases h).resolve_right fun h => hy h.2

/-- no piece is empty, so the length of the whole bounds the number of pieces (the fuel of the DER item loops) -/
theorem length_le_flatten_map {α : Type u} {β : Type v} (enc : α → List β) (h : ∀ a, enc a ≠ []) (items : List α) :
    items.length ≤ ((items.map enc).flatten).length := by
  induction items with
  | nil => exact Nat.le_refl _
  | cons a items ih =>
    have := List.length_pos_iff.2 (h a)
    rw [List.map_cons, List.flatten_cons, List.length_append, List.length_cons]
    omega

theorem perm2 {α : Type u} {a b : α} {l : List α} (h : l.Perm [a, b]) : l = [a, b] ∨ l = [b, a] := by
  have hl := h.length_eq
  match l, hl with
  | [x, y], _ =>
    have hx : x ∈ [a, b] := h.subset (List.mem_cons_self ..)
    simp only [List.mem_cons, List.not_mem_nil, or_false] at hx
    rcases hx with rfl | rfl
    · have h' := List.Perm.cons_inv h
      have := List.singleton_perm_singleton.1 h'
      subst this; exact Or.inl rfl
    · have h' : [x, y].Perm [x, a] := h.trans (List.Perm.swap ..)
      have := List.singleton_perm_singleton.1 (List.Perm.cons_inv h')
      subst this; exact Or.inr rfl

theorem perm3 {α : Type u} {a b c : α} {l : List α} (h : l.Perm [a, b, c]) :
    l = [a, b, c] ∨ l = [a, c, b] ∨ l = [b, a, c] ∨ l = [b, c, a] ∨ l = [c, a, b] ∨ l = [c, b, a] := by
  have hl := h.length_eq
  match l, hl with
  | [x, y, z], _ =>
    have hx : x ∈ [a, b, c] := h.subset (List.mem_cons_self ..)
    simp only [List.mem_cons, List.not_mem_nil, or_false] at hx
    rcases hx with rfl | rfl | rfl
    · rcases perm2 h.cons_inv with e | e
      · rw [e]; exact Or.inl rfl
      · rw [e]; exact Or.inr (Or.inl rfl)
    · rcases perm2 (h.trans (.swap ..)).cons_inv with e | e
      · rw [e]; exact Or.inr (Or.inr (Or.inl rfl))
      · rw [e]; exact Or.inr (Or.inr (Or.inr (Or.inl rfl)))
    · rcases perm2 (h.trans (((List.Perm.swap ..).cons a).trans (.swap ..))).cons_inv with e | e
      · rw [e]; exact Or.inr (Or.inr (Or.inr (Or.inr (Or.inl rfl))))
      · rw [e]; exact Or.inr (Or.inr (Or.inr (Or.inr (Or.inr rfl))))

theorem map_inj_on {α : Type u} {β : Type v} (f : α → β) (P : α → Prop)
    (hf : ∀ x y, P x → P y → f x = f y → x = y) :
    ∀ (a b : List α), (∀ x ∈ a, P x) → (∀ x ∈ b, P x) → a.map f = b.map f → a = b
  | [], [], _, _, _ => rfl
  | [], _ :: _, _, _, h => by cases h
  | _ :: _, [], _, _, h => by cases h
  | x :: xs, y :: ys, ha, hb, h => by
    rw [List.map_cons, List.map_cons] at h
    injection h with h1 h2
    rw [hf x y (ha x List.mem_cons_self) (hb y List.mem_cons_self) h1,
      map_inj_on f P hf xs ys (fun z hz => ha z (List.mem_cons_of_mem _ hz))
        (fun z hz => hb z (List.mem_cons_of_mem _ hz)) h2]

theorem foldlM_one {σ β : Type} (f : σ → β → Option σ) (b : β) (s : σ) : [b].foldlM f s = f s b := by
  simp only [List.foldlM_cons, List.foldlM_nil, bind_pure]

theorem foldlM_opt {σ α β : Type} (f : σ → β → Option σ) (body : α → β) (upd : Option α → σ) (s : σ) (o : Option α)
    (h0 : upd none = s) (h1 : ∀ a, o = some a → f s (body a) = some (upd (some a))) :
    ((o.map body).toList).foldlM f s = some (upd o) := by
  cases o with
  | none => exact congrArg some h0.symm
  | some a => exact (foldlM_one f _ s).trans (h1 a rfl)

theorem foldlM_if {σ β : Type} (f : σ → β → Option σ) (c : Prop) [Decidable c] (b : β) (s s' : σ)
    (h0 : ¬ c → s' = s) (h1 : c → f s b = some s') : (if c then [b] else []).foldlM f s = some s' := by
  by_cases h : c
  · rw [if_pos h]; exact (foldlM_one f b s).trans (h1 h)
  · rw [if_neg h]; exact congrArg some (h0 h).symm

theorem fold_collect {α β : Type} (f : List α → β → Option (List α)) (g : β → Option α)
    (hf : ∀ acc c, f acc c = (g c).map fun d => acc ++ [d]) :
    ∀ (items : List β) (vals : List α) (acc : List α), items.map g = vals.map some →
      items.foldlM f acc = some (acc ++ vals) := by
  intro items
  induction items with
  | nil =>
    intro vals acc h
    cases vals with
    | nil => exact congrArg some (List.append_nil acc).symm
    | cons v vs => cases h
  | cons c items ih =>
    intro vals acc h
    cases vals with
    | nil => cases h
    | cons v vs =>
      obtain ⟨h1, h2⟩ := List.cons.inj h
      rw [List.foldlM_cons, hf, h1, Option.map_some, Option.bind_eq_bind, Option.bind_some, ih vs (acc ++ [v]) h2,
        List.append_assoc, List.singleton_append]

theorem take_length_sub {α : Type} (a b : List α) : (a ++ b).take ((a ++ b).length - b.length) = a := by
  rw [List.length_append, Nat.add_sub_cancel]
  exact List.take_left' rfl

theorem getLast?_eq_drop (l : List Nat) (h : l ≠ []) :
    l.getLast? = some ((l.drop (l.length - 1)).headD 0) := by
  rw [List.headD_eq_head?_getD, List.head?_drop, List.getLast?_eq_getElem?,
    List.getElem?_eq_getElem (Nat.sub_one_lt (mt List.eq_nil_of_length_eq_zero h))]
  rfl

theorem eq_take_cons_drop {α : Type} {b : List α} {k : Nat} {c : α} (h : b[k]? = some c) :
    k < b.length ∧ b = b.take k ++ c :: b.drop (k + 1) := by
  obtain ⟨hk, e⟩ := List.getElem?_eq_some_iff.1 h
  refine ⟨hk, ?_⟩
  rw [← e, ← List.drop_eq_getElem_cons hk, List.take_append_drop]

theorem not_length_le_zero {α : Type} {b : List α} (h : b ≠ []) : ¬ b.length ≤ 0 :=
  fun hf => h (List.eq_nil_of_length_eq_zero (Nat.le_zero.mp hf))

end Rpki.Lists
