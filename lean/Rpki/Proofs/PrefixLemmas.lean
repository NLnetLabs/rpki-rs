/-
Arithmetic of aligned blocks (`P`, `Q` are block sizes with `Q ∣ P`: a `Q`-block lies inside the `P`-block
holding its start); the `FamilyAndLen` byte of a prefix: what the constructors write and how `is_v4`
and `len` read it; what `clear_host` and `MaxLenPrefix::new` return; bounds of a well-formed prefix (`WF.*`).
-/
import Rpki.Model.Prefix
namespace Rpki.Prefix
open Rpki.Consts

theorem block_in (x P Q : Nat) (hQ : 0 < Q) (hdiv : Q ∣ P) (hP : 0 < P) (hx : x % Q = 0) :
    x + Q ≤ x / P * P + P := by
  obtain ⟨R, rfl⟩ := hdiv
  have hR : 0 < R := by
    rcases Nat.eq_zero_or_pos R with h | h
    · subst h; simp at hP
    · exact h
  obtain ⟨b, rfl⟩ : ∃ b, x = Q * b := ⟨x / Q, by
    have := Nat.div_add_mod x Q; rw [hx] at this; omega⟩
  rw [Nat.mul_div_mul_left _ _ hQ]
  have h1 : b < b / R * R + R := Nat.lt_div_mul_add hR
  have h2 : Q * (b + 1) ≤ Q * (b / R * R + R) := Nat.mul_le_mul_left Q h1
  calc Q * b + Q = Q * (b + 1) := by rw [Nat.mul_add, Nat.mul_one]
    _ ≤ Q * (b / R * R + R) := h2
    _ = b / R * (Q * R) + Q * R := by
        rw [Nat.mul_add, ← Nat.mul_assoc, ← Nat.mul_assoc, Nat.mul_comm Q (b / R)]

theorem aligned_div_mul (x P : Nat) (h : x % P = 0) : x / P * P = x :=
  Nat.div_mul_cancel (Nat.dvd_of_mod_eq_zero h)

theorem pow_lt_of_lt {a b : Nat} (h : a < b) : 2 ^ a < 2 ^ b := Nat.pow_lt_pow_right (by decide) h

theorem pow_le_of_le {a b : Nat} (h : a ≤ b) : 2 ^ a ≤ 2 ^ b := Nat.pow_le_pow_right (by decide) h

theorem fal_read_v4 {fal : Nat} (h : fal ≤ 32) : falIsV4 fal = true ∧ falLen fal = fal :=
  have h0 : fal / 64 = 0 := Nat.div_eq_of_lt (Nat.lt_of_le_of_lt h (by decide))
  ⟨decide_eq_true h0, if_pos h0⟩

theorem fal_read_v6 {fal : Nat} (h : 128 ≤ fal) : falIsV4 fal = false ∧ falLen fal = 255 - fal := by
  have h2 : 2 ≤ fal / 64 := (Nat.le_div_iff_mul_le (by decide)).2 h
  have h0 : ¬ fal / 64 = 0 := fun e => by rw [e] at h2; cases h2
  have h1 : ¬ fal / 64 = 1 := fun e => by rw [e] at h2; exact absurd h2 (by decide)
  exact ⟨decide_eq_false h0, (if_neg h0).trans (if_neg h1)⟩

theorem falV4_some {n f : Nat} : falV4 n = some f ↔ n ≤ 32 ∧ f = n := by
  unfold falV4 falV4Max
  by_cases c : n > 32
  · rw [if_pos c]; exact iff_of_false nofun fun h => Nat.not_le.2 c h.1
  · rw [if_neg c, Option.some.injEq, eq_comm]; exact (and_iff_right (Nat.le_of_not_lt c)).symm

/-- `new_v6` stores 64 for the length 128 and `255 - n` for a shorter one: in either case an octet that reads back
as IPv6 and `n` -/
theorem falV6_some {n f : Nat} (h : falV6 n = some f) :
    n ≤ 128 ∧ falIsV4 f = false ∧ falLen f = n ∧ f < 256 := by
  unfold falV6 falV6Max falV6Full falXor at h
  by_cases c : n > 128
  · rw [if_pos c] at h; cases h
  · rw [if_neg c] at h
    by_cases e : n = 128
    · rw [if_pos e] at h; cases h; exact ⟨Nat.le_of_not_lt c, rfl, e.symm, by decide⟩
    · rw [if_neg e] at h; cases h
      have := fal_read_v6 (fal := 255 - n) (by omega)
      exact ⟨Nat.le_of_not_lt c, this.1, this.2.trans (Nat.sub_sub_self (by omega)), by omega⟩

theorem falV6_isSome {n : Nat} : (falV6 n).isSome ↔ n ≤ 128 := by
  refine ⟨fun h => ?_, fun h => ?_⟩
  · obtain ⟨f, e⟩ := Option.isSome_iff_exists.1 h
    exact (falV6_some e).1
  · unfold falV6 falV6Max
    rw [if_neg (Nat.not_lt.2 h)]
    split <;> rfl

theorem fal_table : ∀ n, n < 256 →
    ((falV4 n).isSome ↔ n ≤ 32) ∧ ((falV6 n).isSome ↔ n ≤ 128) ∧
    (∀ f, falV4 n = some f → falIsV4 f = true ∧ falLen f = n ∧ f < 256) ∧
    (∀ f, falV6 n = some f → falIsV4 f = false ∧ falLen f = n ∧ f < 256) := by
  intro n hn
  refine ⟨?_, falV6_isSome, fun f h => ?_, fun f h => (falV6_some h).2⟩
  · rw [Option.isSome_iff_exists]
    exact ⟨fun ⟨f, h⟩ => (falV4_some.1 h).1, fun h => ⟨n, falV4_some.2 ⟨h, rfl⟩⟩⟩
  · obtain ⟨h32, rfl⟩ := falV4_some.1 h
    exact ⟨(fal_read_v4 h32).1, (fal_read_v4 h32).2, hn⟩
theorem falV4_cases {len : Nat} :
    (32 < len ∧ falV4 len = none) ∨
    ∃ f, falV4 len = some f ∧ len ≤ 32 ∧ falIsV4 f = true ∧ falLen f = len := by
  by_cases h : len ≤ 32
  · exact .inr ⟨len, falV4_some.2 ⟨h, rfl⟩, h, fal_read_v4 h⟩
  · exact .inl ⟨Nat.lt_of_not_le h, Option.eq_none_iff_forall_ne_some.2 fun f e => h (falV4_some.1 e).1⟩

theorem falV6_cases {len : Nat} :
    (128 < len ∧ falV6 len = none) ∨
    ∃ f, falV6 len = some f ∧ len ≤ 128 ∧ falIsV4 f = false ∧ falLen f = len := by
  cases e : falV6 len with
  | none => exact .inl ⟨Nat.lt_of_not_le fun h => Option.isSome_iff_ne_none.1 (falV6_isSome.2 h) e, rfl⟩
  | some f => exact .inr ⟨f, rfl, (falV6_some e).1, (falV6_some e).2.1, (falV6_some e).2.2.1⟩

theorem ite_isHostZero {α} (bits len : Nat) (e v : α) :
    (if !isHostZero bits len then e else v) = if bits % 2 ^ (128 - len) = 0 then v else e := by
  unfold isHostZero hostBits
  by_cases h : bits % 2 ^ (128 - len) = 0
  · rw [if_pos h, decide_eq_true h]; rfl
  · rw [if_neg h, decide_eq_false h]; rfl

theorem clearHost_aligned (bits len : Nat) (hb : bits < 2 ^ 128) (ha : bits % 2 ^ (128 - len) = 0) :
    clearHost bits len = bits := by
  unfold clearHost hostBits
  split
  next h0 => subst h0; exact ((Nat.mod_eq_of_lt hb).symm.trans ha).symm
  next => exact aligned_div_mul _ _ ha

theorem clearHost_facts (bits len : Nat) (hb : bits < 2 ^ 128) :
    clearHost bits len < 2 ^ 128 ∧ clearHost bits len % 2 ^ (128 - len) = 0 := by
  unfold clearHost hostBits
  by_cases h0 : len = 0
  · simp [h0]
  · simp only [h0, if_false]
    exact ⟨Nat.lt_of_le_of_lt (Nat.div_mul_le_self _ _) hb, Nat.mul_mod_left _ _⟩

theorem falLen_of_v4 {fal : Nat} (h : falIsV4 fal = true) : falLen fal = fal :=
  if_pos (of_decide_eq_true h)

theorem fal_read {fal : Nat} (h : fal ≤ 32 ∨ fal = 64 ∨ (128 ≤ fal ∧ fal ≤ 255)) :
    (fal ≤ 32 ∧ falIsV4 fal = true ∧ falLen fal = fal) ∨
    (fal = 64 ∧ falIsV4 fal = false ∧ falLen fal = 128) ∨
    (128 ≤ fal ∧ fal ≤ 255 ∧ falIsV4 fal = false ∧ falLen fal = 255 - fal) := by
  rcases h with h | rfl | h
  · exact .inl ⟨h, fal_read_v4 h⟩
  · exact .inr (.inl ⟨rfl, rfl, rfl⟩)
  · exact .inr (.inr ⟨h.1, h.2, fal_read_v6 h.1⟩)

theorem WF.fal_cases {p : Pfx} (h : WF p) : p.fal ≤ 32 ∨ p.fal = 64 ∨ (128 ≤ p.fal ∧ p.fal ≤ 255) := by
  rcases h.2.1 with h | h | h
  · exact Or.inl h.1
  · exact Or.inr (Or.inl h)
  · exact Or.inr (Or.inr h)

theorem WF.len_le {p : Pfx} (h : WF p) : p.len ≤ 128 := by
  show falLen p.fal ≤ 128
  rcases fal_read h.fal_cases with ⟨h, _, e⟩ | ⟨_, _, e⟩ | ⟨h, _, _, e⟩ <;> rw [e]
  · exact Nat.le_trans h (by decide)
  · exact Nat.le_refl _
  · omega

theorem WF.v4_len_le {p : Pfx} (h : WF p) (h4 : p.isV4 = true) : p.len ≤ 32 := by
  show falLen p.fal ≤ 32
  rcases fal_read h.fal_cases with ⟨h, _, e⟩ | ⟨_, v, _⟩ | ⟨_, _, v, _⟩
  · rw [e]; exact h
  · exact absurd (v.symm.trans h4) Bool.false_ne_true
  · exact absurd (v.symm.trans h4) Bool.false_ne_true

theorem WF.hi_succ {p : Pfx} (h : WF p) : p.hi + 1 = p.bits + 2 ^ hostBits p.len := by
  unfold Pfx.hi intoMax
  split
  · rename_i h128
    rw [show hostBits p.len = 0 from Nat.sub_eq_zero_of_le h128]
  · rw [aligned_div_mul _ _ h.2.2, Nat.add_assoc, Nat.sub_add_cancel (Nat.two_pow_pos _)]

theorem WF.hi_lt {p : Pfx} (h : WF p) : p.hi < A := by
  have hdiv : 2 ^ hostBits p.len ∣ A := by
    rw [show A = 2 ^ 128 by decide]; exact Nat.pow_dvd_pow 2 (Nat.sub_le _ _)
  have := block_in p.bits A _ (Nat.two_pow_pos _) hdiv (by decide) h.2.2
  rwa [Nat.div_eq_of_lt h.1, Nat.zero_mul, Nat.zero_add, ← h.hi_succ] at this

theorem hostBits_lt {a b : Nat} (h : a < b) (hb : b ≤ 128) : hostBits b < hostBits a :=
  Nat.sub_lt_sub_left (Nat.lt_of_lt_of_le h hb) h

theorem hostBits_inj {a b : Nat} (ha : a ≤ 128) (hb : b ≤ 128) (h : hostBits a = hostBits b) :
    a = b := by
  rw [← Nat.sub_sub_self ha, ← Nat.sub_sub_self hb]
  exact congrArg (128 - ·) h

theorem fal_eq {fal : Nat} (h : fal ≤ 32 ∨ fal = 64 ∨ (128 ≤ fal ∧ fal ≤ 255)) :
    fal = if falIsV4 fal then falLen fal else if falLen fal = 128 then 64 else 255 - falLen fal := by
  rcases fal_read h with ⟨_, v, e⟩ | ⟨rfl, _, _⟩ | ⟨h, h255, v, e⟩
  · rw [v, e]; rfl
  · rfl
  · rw [v, e, if_neg Bool.false_ne_true, if_neg (by omega), Nat.sub_sub_self h255]

theorem fal_inj {p q : Pfx} (hp : WF p) (hq : WF q) (hf : p.isV4 = q.isV4) (hl : p.len = q.len) :
    p.fal = q.fal := by
  unfold Pfx.isV4 at hf
  unfold Pfx.len at hl
  rw [fal_eq hp.fal_cases, fal_eq hq.fal_cases, hf, hl]

theorem mlpNew_fields (p : Pfx) (ml : Option Nat) (m : Mlp) (h : mlpNew p ml = .ok m) : m = ⟨p, ml⟩ := by
  revert h
  fun_cases mlpNew p ml <;> intro h <;> cases h <;> rfl

theorem mlpNew_ok (p : Pfx) (m : Nat) (v4 : Bool) (hv : p.isV4 = v4) (h1 : p.len ≤ m)
    (h2 : m ≤ if v4 then 32 else 128) : mlpNew p (some m) = .ok ⟨p, some m⟩ := by
  rw [mlpNew, if_neg, if_neg (Nat.not_lt.2 h1)]
  rintro (⟨a, b⟩ | b)
  · rw [show v4 = true from hv.symm.trans a, if_pos rfl] at h2; exact Nat.not_lt.2 h2 b
  · exact Nat.not_lt.2 (Nat.le_trans h2 (by split <;> decide)) b

end Rpki.Prefix
