/-
The RTR payload PDUs of `Rpki/Model/RtrPdu.lean` as octets: every payload PDU and End of Data is read back
as written, the reader stopping exactly at the PDU's end. At the end, what the round trip of a payload item
through `Payload::new` and `to_payload` (C07) is stated with: which items fit the wire, and what comes back.
-/
import Rpki.Model.RtrPdu
namespace Rpki.Rtr
open Rpki.Consts

def AllBytes (l : Bytes) : Prop := ∀ b ∈ l, b < 256

theorem be_length (w n : Nat) : (be w n).length = w := by
  induction w with
  | zero => rfl
  | succ w ih => rw [be, List.length_cons, ih]

theorem be_bytes (w n : Nat) : AllBytes (be w n) := by
  induction w with
  | zero => intro b hb; cases hb
  | succ w ih =>
    intro b hb
    rcases List.mem_cons.1 hb with h | h
    · rw [h]; exact Nat.mod_lt _ (by decide)
    · exact ih b h

theorem unbe_be (w n : Nat) : unbe (be w n) = n % 256 ^ w := by
  induction w with
  | zero => rw [Nat.pow_zero, Nat.mod_one]; rfl
  | succ w ih =>
    rw [be, unbe, be_length, ih, Nat.pow_succ, Nat.mod_mul, Nat.mul_comm, Nat.add_comm]

theorem unbe_be_lt (w n : Nat) (h : n < 256 ^ w) : unbe (be w n) = n := by
  rw [unbe_be, Nat.mod_eq_of_lt h]

theorem unbe_mid (a c : Bytes) (i k n : Nat) (ha : a.length = i) (hn : n < 256 ^ k) :
    unbe (((a ++ (be k n ++ c)).drop i).take k) = n := by
  rw [List.drop_left' ha, List.take_left' (be_length k n), unbe_be_lt k n hn]

theorem unbe_last (a : Bytes) (i k n : Nat) (ha : a.length = i) (hn : n < 256 ^ k) :
    unbe (((a ++ be k n).drop i).take k) = n := by
  rw [List.drop_left' ha, List.take_of_length_le (Nat.le_of_eq (be_length k n)), unbe_be_lt k n hn]

theorem readExact_short (s : Bytes) (n : Nat) (h : s.length < n) : readExact n s = .error .eof :=
  if_pos h

theorem readExact_of_le (s : Bytes) (n : Nat) (h : n ≤ s.length) :
    readExact n s = .ok (s.take n, s.drop n) :=
  if_neg (Nat.not_lt.2 h)

theorem readExact_append (a rest : Bytes) (n : Nat) (h : a.length = n) :
    readExact n (a ++ rest) = .ok (a, rest) := by
  rw [readExact_of_le _ _ (by rw [List.length_append]; omega), List.take_left' h, List.drop_left' h]

theorem readExact_ok_iff (s : Bytes) (n : Nat) (a rest : Bytes) :
    readExact n s = .ok (a, rest) ↔ s = a ++ rest ∧ a.length = n := by
  constructor
  · intro e
    rcases Nat.lt_or_ge s.length n with h | h
    · rw [readExact_short _ _ h] at e; cases e
    · rw [readExact_of_le _ _ h] at e
      cases e
      exact ⟨(List.take_append_drop n s).symm, List.length_take_of_le h⟩
  · rintro ⟨rfl, hl⟩
    exact readExact_append _ _ _ hl

def Hdr.WF (h : Hdr) : Prop := h.version < 256 ∧ h.pdu < 256 ∧ h.session < 65536 ∧ h.length < 4294967296

theorem encHdr_length (h : Hdr) : (encHdr h).length = 8 := by
  simp only [encHdr, List.length_append, List.length_cons, List.length_nil, be_length]

theorem take_encHdr (h : Hdr) (rest : Bytes) : (encHdr h ++ rest).take 8 = encHdr h :=
  List.take_left' (encHdr_length h)

theorem decHdr_encHdr (h : Hdr) (hw : h.WF) : decHdr (encHdr h) = h := by
  obtain ⟨v, p, s, l⟩ := h
  obtain ⟨-, -, h3, h4⟩ := hw
  unfold decHdr encHdr
  rw [List.append_assoc, unbe_mid [v, p] _ 2 2 s rfl h3, ← List.append_assoc,
    unbe_last _ 4 4 l (by rw [List.length_append, be_length]; rfl) h4]
  rfl

theorem readHdr_short (s : Bytes) (h : s.length < 8) : readHdr s = .error .eof := by
  rw [readHdr, readExact_short s sizeHeader h]

theorem readHdr_of_le (s : Bytes) (h : 8 ≤ s.length) : readHdr s = .ok (decHdr (s.take 8), s.drop 8) := by
  rw [readHdr, readExact_of_le s sizeHeader h]
  rfl

theorem readHdr_encHdr (h : Hdr) (hw : h.WF) (rest : Bytes) :
    readHdr (encHdr h ++ rest) = .ok (h, rest) := by
  rw [readHdr, readExact_append _ rest sizeHeader (encHdr_length h)]
  exact congrArg (fun x => Except.ok (x, rest)) (decHdr_encHdr h hw)

theorem readPayload_encHdr (h : Hdr) (hw : h.WF) (rest : Bytes) :
    readPayload (encHdr h ++ rest) = readItem h rest := by
  rw [readPayload, readHdr_encHdr h hw]

/-- what `Payload::new` / `EndOfData::new` produce, and more: any in-range field values -/
def Item.WF : Item → Prop
  | .v4 h f pl ml z p a => h.WF ∧ h.pdu = pduIpv4Prefix ∧ h.length = sizeIpv4Prefix ∧
      f < 256 ∧ pl < 256 ∧ ml < 256 ∧ z < 256 ∧ p < 2 ^ 32 ∧ a < 2 ^ 32
  | .v6 h f pl ml z p a => h.WF ∧ h.pdu = pduIpv6Prefix ∧ h.length = sizeIpv6Prefix ∧
      f < 256 ∧ pl < 256 ∧ ml < 256 ∧ z < 256 ∧ p < 2 ^ 128 ∧ a < 2 ^ 32
  | .key h ski a info => h.WF ∧ h.pdu = pduRouterKey ∧ h.length = sizeRouterKeyFixed + info.length ∧
      ski.length = 20 ∧ a < 2 ^ 32
  | .aspa h c ps => h.WF ∧ h.pdu = pduAspa ∧ h.length = sizeAspaFixed + ps.length ∧
      ps.length % 4 = 0 ∧ c < 2 ^ 32
  | .eod0 h s => h.WF ∧ h.pdu = pduEndOfData ∧ h.version = 0 ∧ h.length = sizeEndOfDataV0 ∧ s < 2 ^ 32
  | .eod1 h s r1 r2 e => h.WF ∧ h.pdu = pduEndOfData ∧ (h.version = 1 ∨ h.version = 2) ∧
      h.length = sizeEndOfDataV1 ∧ s < 2 ^ 32 ∧ r1 < 2 ^ 32 ∧ r2 < 2 ^ 32 ∧ e < 2 ^ 32

theorem Item.WF.hdr {it : Item} (hw : it.WF) : it.hdr.WF := by
  cases it <;> exact hw.1

theorem readItem_v4 {h : Hdr} (hp : h.pdu = pduIpv4Prefix) : readItem h = readV4 h := by
  funext r; rw [readItem, if_pos hp]

theorem readItem_v6 {h : Hdr} (hp : h.pdu = pduIpv6Prefix) : readItem h = readV6 h := by
  funext r; rw [readItem, if_neg (hp ▸ by decide), if_pos hp]

theorem readItem_key {h : Hdr} (hp : h.pdu = pduRouterKey) : readItem h = readKey h := by
  funext r; rw [readItem, if_neg (hp ▸ by decide), if_neg (hp ▸ by decide), if_pos hp]

theorem readItem_aspa {h : Hdr} (hp : h.pdu = pduAspa) : readItem h = readAspa h := by
  funext r
  rw [readItem, if_neg (hp ▸ by decide), if_neg (hp ▸ by decide), if_neg (hp ▸ by decide), if_pos hp]

theorem readItem_eod {h : Hdr} (hp : h.pdu = pduEndOfData) : readItem h = readEod h := by
  funext r
  rw [readItem, if_neg (hp ▸ by decide), if_neg (hp ▸ by decide), if_neg (hp ▸ by decide),
    if_neg (hp ▸ by decide), if_pos hp]

theorem readBody_ok (h : Hdr) (size : Nat) (b rest : Bytes) (hl : h.length = size)
    (hb : b.length = size - sizeHeader) : readBody h size (b ++ rest) = .ok (b, rest) := by
  rw [readBody, if_neg (fun hne => hne hl), readExact_append _ _ _ hb]

theorem readV4_ok (h : Hdr) (f pl ml z p a : Nat) (rest : Bytes) (hl : h.length = sizeIpv4Prefix)
    (hp : p < 2 ^ 32) (ha : a < 2 ^ 32) :
    readV4 h ([f, pl, ml, z] ++ (be 4 p ++ be 4 a) ++ rest) = .ok (.v4 h f pl ml z p a, rest) := by
  rw [readV4, readBody_ok h _ _ rest hl (by
    simp only [List.length_append, List.length_cons, List.length_nil, be_length]; rfl)]
  simp only
  rw [unbe_mid _ _ 4 4 p rfl hp, ← List.append_assoc,
    unbe_last _ 8 4 a (by rw [List.length_append, be_length]; rfl) ha]
  rfl

theorem readV6_ok (h : Hdr) (f pl ml z p a : Nat) (rest : Bytes) (hl : h.length = sizeIpv6Prefix)
    (hp : p < 2 ^ 128) (ha : a < 2 ^ 32) :
    readV6 h ([f, pl, ml, z] ++ (be 16 p ++ be 4 a) ++ rest) = .ok (.v6 h f pl ml z p a, rest) := by
  rw [readV6, readBody_ok h _ _ rest hl (by
    simp only [List.length_append, List.length_cons, List.length_nil, be_length]; rfl)]
  simp only
  rw [unbe_mid _ _ 4 16 p rfl hp, ← List.append_assoc,
    unbe_last _ 20 4 a (by rw [List.length_append, be_length]; rfl) ha]
  rfl

theorem readKey_ok (h : Hdr) (ski : Bytes) (a : Nat) (info rest : Bytes)
    (hl : h.length = sizeRouterKeyFixed + info.length) (hs : ski.length = 20) (ha : a < 2 ^ 32) :
    readKey h (ski ++ be 4 a ++ (info ++ rest)) = .ok (.key h ski a info, rest) := by
  rw [readKey, if_neg (by rw [hl]; omega),
    readExact_append _ _ (sizeRouterKeyFixed - sizeHeader) (by rw [List.length_append, be_length, hs]; rfl)]
  simp only
  rw [hl, Nat.add_sub_cancel_left, readExact_append _ _ _ rfl]
  simp only
  rw [List.take_left' hs, unbe_last _ 20 4 a hs ha]

theorem readAspa_ok (h : Hdr) (c : Nat) (ps rest : Bytes)
    (hl : h.length = sizeAspaFixed + ps.length) (hm : ps.length % 4 = 0) (hc : c < 2 ^ 32) :
    readAspa h (be 4 c ++ (ps ++ rest)) = .ok (.aspa h c ps, rest) := by
  rw [readAspa, hl, Nat.add_sub_cancel_left, if_neg (by omega), if_neg (fun hne => hne hm),
    readExact_append _ _ (sizeAspaFixed - sizeHeader) (be_length 4 c)]
  simp only
  rw [readExact_append _ _ _ rfl]
  simp only
  rw [unbe_be_lt 4 c hc]

theorem readEod0_ok (h : Hdr) (s : Nat) (rest : Bytes) (hv : h.version = 0)
    (hl : h.length = sizeEndOfDataV0) (hs : s < 2 ^ 32) :
    readEod h (be 4 s ++ rest) = .ok (.eod0 h s, rest) := by
  rw [readEod, if_pos hv, readBody_ok h _ _ rest hl (be_length 4 s)]
  simp only
  rw [unbe_be_lt 4 s hs]

theorem readEod1_ok (h : Hdr) (s r1 r2 e : Nat) (rest : Bytes) (hv : h.version = 1 ∨ h.version = 2)
    (hl : h.length = sizeEndOfDataV1) (hs : s < 2 ^ 32) (h1 : r1 < 2 ^ 32) (h2 : r2 < 2 ^ 32)
    (h3 : e < 2 ^ 32) :
    readEod h (be 4 s ++ (be 4 r1 ++ (be 4 r2 ++ be 4 e)) ++ rest) = .ok (.eod1 h s r1 r2 e, rest) := by
  rw [readEod, if_neg (by omega), if_pos hv, readBody_ok h _ _ rest hl (by
    simp only [List.length_append, be_length]; rfl)]
  simp only
  rw [List.take_left' (be_length 4 s), unbe_be_lt 4 s hs, unbe_mid _ _ 4 4 r1 (be_length 4 s) h1,
    ← List.append_assoc, unbe_mid _ _ 8 4 r2 (by rw [List.length_append, be_length, be_length]) h2,
    ← List.append_assoc, unbe_last _ 12 4 e (by simp only [List.length_append, be_length]) h3]

theorem readItem_encode (it : Item) (hw : it.WF) :
    ∃ body, it.encode = encHdr it.hdr ++ body ∧
      ∀ rest, readItem it.hdr (body ++ rest) = .ok (it, rest) := by
  cases it with
  | v4 h f pl ml z p a =>
    obtain ⟨_, hp, hl, _, _, _, _, h5, h6⟩ := hw
    exact ⟨[f, pl, ml, z] ++ (be 4 p ++ be 4 a), by simp only [Item.encode, Item.hdr, List.append_assoc],
      fun rest => readItem_v4 hp ▸ readV4_ok h f pl ml z p a rest hl h5 h6⟩
  | v6 h f pl ml z p a =>
    obtain ⟨_, hp, hl, _, _, _, _, h5, h6⟩ := hw
    exact ⟨[f, pl, ml, z] ++ (be 16 p ++ be 4 a), by simp only [Item.encode, Item.hdr, List.append_assoc],
      fun rest => readItem_v6 hp ▸ readV6_ok h f pl ml z p a rest hl h5 h6⟩
  | key h ski a info =>
    obtain ⟨_, hp, hl, h1, h2⟩ := hw
    exact ⟨ski ++ be 4 a ++ info, by simp only [Item.encode, Item.hdr, List.append_assoc],
      fun rest => by rw [List.append_assoc]; exact readItem_key hp ▸ readKey_ok h ski a info rest hl h1 h2⟩
  | aspa h c ps =>
    obtain ⟨_, hp, hl, h1, h2⟩ := hw
    exact ⟨be 4 c ++ ps, by simp only [Item.encode, Item.hdr, List.append_assoc],
      fun rest => by rw [List.append_assoc]; exact readItem_aspa hp ▸ readAspa_ok h c ps rest hl h1 h2⟩
  | eod0 h s =>
    obtain ⟨_, hp, hv, hl, h1⟩ := hw
    exact ⟨be 4 s, rfl, fun rest => readItem_eod hp ▸ readEod0_ok h s rest hv hl h1⟩
  | eod1 h s r1 r2 e =>
    obtain ⟨_, hp, hv, hl, h1, h2, h3, h4⟩ := hw
    exact ⟨be 4 s ++ (be 4 r1 ++ (be 4 r2 ++ be 4 e)), by simp only [Item.encode, Item.hdr, List.append_assoc],
      fun rest => readItem_eod hp ▸ readEod1_ok h s r1 r2 e rest hv hl h1 h2 h3 h4⟩

theorem readPayload_encode (it : Item) (hw : it.WF) (rest : Bytes) :
    readPayload (it.encode ++ rest) = .ok (it, rest) := by
  obtain ⟨body, e, hr⟩ := readItem_encode it hw
  rw [e, List.append_assoc, readPayload_encHdr _ hw.hdr]
  exact hr rest

/-! ### payload items: `Payload::new` and `to_payload` -/

/-- an item `Payload::new` can put on the wire: the address aligned to its length, the max length in range -/
def PayloadItem.WF : PayloadItem → Prop
  | .origin true addr plen ml asn => addr < 2 ^ 32 ∧ plen ≤ 32 ∧ (addr * 2 ^ 96) % 2 ^ (128 - plen) = 0 ∧
      (∀ m, ml = some m → plen ≤ m ∧ m ≤ 32) ∧ asn < 2 ^ 32
  | .origin false addr plen ml asn => addr < 2 ^ 128 ∧ plen ≤ 128 ∧ addr % 2 ^ (128 - plen) = 0 ∧
      (∀ m, ml = some m → plen ≤ m ∧ m ≤ 128) ∧ asn < 2 ^ 32
  | .routerKey ski asn _ => ski.length = 20 ∧ asn < 2 ^ 32
  | .aspa c ps => c < 2 ^ 32 ∧ ps.length % 4 = 0

/-- what comes back: same item; an origin carries its *resolved* max length (origins compare by
it), a withdrawn ASPA carries no providers (the documented convention) -/
def expectBack (flags : Nat) : PayloadItem → PayloadItem
  | .aspa c ps => if flags % 2 = 1 then .aspa c ps else .aspa c []
  | .origin v4 a l ml asn => .origin v4 a l (some (ml.getD l)) asn
  | p => p

theorem getD_range {ml : Option Nat} {plen B : Nat} (hB : plen ≤ B)
    (h : ∀ m, ml = some m → plen ≤ m ∧ m ≤ B) : plen ≤ ml.getD plen ∧ ml.getD plen ≤ B := by
  cases ml with
  | none => exact ⟨Nat.le_refl _, hB⟩
  | some m => exact h m rfl

end Rpki.Rtr
