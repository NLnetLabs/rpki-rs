/-
  `SigMsgDer.decodeSigMsg` reads back what `SigMsgEnc.encodeSigMsg` writes, including its own CRL type.
-/
import Rpki.Model.SigMsgEnc
import Rpki.Proofs.CrlEncLemmas
import Rpki.Proofs.CmsEncLemmas
namespace Rpki.SigMsgEnc
open Rpki.Der Rpki.CertDer Rpki.SigMsgDer Rpki.CertEnc Rpki.CmsEnc Rpki.Consts

theorem takeOptMsgEntry_encode (e : Crl.Entry) (he : Crl.EntryOk e) :
    Reads takeOptMsgEntry (Crl.encodeEntry e) (.ok e) := .of fun rest => by
  have hnil : takeOptCons tagSeq [] = .absent := rfl
  rw [Crl.encodeEntry_eq]
  unfold takeOptMsgEntry
  simp (disch := decide) only [takeOptCons_reads, takePrim_reads, (X509.der_roundtrip' e.serial he.1).1,
    Manifest.takeTime_encodeVaried e.date he.2.1 he.2.2, hnil, if_true]

theorem takeOptMsgEntry_nil : takeOptMsgEntry [] = .absent := rfl

theorem takeMsgRevoked_enc (es : List Crl.Entry) (h : ∀ e ∈ es, Crl.EntryOk e) :
    Reads takeMsgRevoked (tlv tagSeq (Crl.encodeList es)) fun rest => some (Crl.encodeList es, rest) := .of fun rest => by
  unfold takeMsgRevoked
  rw [(takeOptCons_reads tagSeq _).1 rest]
  dsimp only
  rw [show capturePass takeOptMsgEntry _ _ (Crl.encodeList es) 0 = some (0 + es.length) from
    capturePass_flatten takeOptMsgEntry _ Crl.encodeEntry rfl es _ 0 (Crl.length_le_encodeList es)
      (fun e he => ⟨e, (takeOptMsgEntry_encode e (h e he)).1, rfl⟩)]

theorem msgCrlExtension_extBody (e : CrlDer.CrlExts) (oid v : Bytes) (ho : oidOk oid = true)
    (h : oid = oidAuthorityKeyId ∨ oid = oidCrlNumber) :
    msgCrlExtension e (extBody oid false v) = CrlDer.crlExtension e (extBody oid false v) := by
  unfold msgCrlExtension
  rw [extBody, List.append_assoc, (takeOid_tlv _ ho).1]
  exact if_pos h

structure WFCrl (d : MsgCrlD) : Prop where
  issuer : NameOk d.issuer
  this : X509.validCivil d.thisUpdate = true ∧ d.thisUpdate.y ≤ 9999
  next : X509.validCivil d.nextUpdate = true ∧ d.nextUpdate.y ≤ 9999
  revoked : ∃ es, d.revoked = Crl.encodeList es ∧ ∀ e ∈ es, Crl.EntryOk e
  aki : ∀ k, d.aki = some k → k.length = 20
  number : ∀ n, d.number = some n → X509.VS n

theorem msgCrlExtItems_fold (d : MsgCrlD) (h : WFCrl d) :
    (msgCrlExtItems d).foldlM msgCrlExtension {} = some { aki := d.aki, number := d.number } := by
  unfold msgCrlExtItems
  rw [List.foldlM_append,
    Lists.foldlM_opt msgCrlExtension CrlEnc.akiBody (fun o => { aki := o }) {} d.aki rfl
      (fun k hk => (msgCrlExtension_extBody _ _ _ (by decide) (Or.inl rfl)).trans
        (CrlEnc.crlExtension_aki _ k (h.aki k hk) rfl)),
    Option.bind_eq_bind, Option.bind_some,
    Lists.foldlM_opt msgCrlExtension CrlEnc.numberBody (fun o => { aki := d.aki, number := o }) _ d.number rfl
      (fun n hn => (msgCrlExtension_extBody _ _ _ (by decide) (Or.inr rfl)).trans
        (CrlEnc.crlExtension_number _ n (h.number n hn) rfl))]

/-- `SignedMessageTbsCrl::take_from` reads back what `SignedMessageTbsCrl::encode_ref` writes. -/
theorem decodeTbsMsgCrl_enc (d : MsgCrlD) (h : WFCrl d) :
    decodeTbsMsgCrl (encodeTbsMsgCrl d) =
      some { d with innerParam := true, outerParam := true, tbs := encodeTbsMsgCrl d, signature := [] } := by
  obtain ⟨es, hes, hok⟩ := h.revoked
  unfold decodeTbsMsgCrl
  rw [encodeTbsMsgCrl, (takeCons_reads tagSeq _).2, ← encodeTbsMsgCrl]
  simp (disch := decide) only [List.append_assoc, takePrim_reads, takeSigAlg_enc, h.issuer _, takeTime_timeTlv _ h.this,
    takeTime_timeTlv _ h.next, hes, takeMsgRevoked_enc es hok, takeCons_reads, foldCons_seqs, msgCrlExtItems_fold d h,
    ne_eq, not_true_eq_false, if_false]

theorem msgCrlExtItems_forest (d : MsgCrlD) : ∀ x ∈ msgCrlExtItems d, Forest x := by
  intro x hx
  unfold msgCrlExtItems at hx
  simp only [List.mem_append, Option.mem_toList, Option.map_eq_some_iff] at hx
  rcases hx with ⟨a, _, rfl⟩ | ⟨a, _, rfl⟩
  all_goals exact forest_extBody _ _ _

theorem encodeTbsMsgCrl_forest (d : MsgCrlD) (h : WFCrl d) (hi : Forest d.issuer) : Tbs (encodeTbsMsgCrl d) := by
  obtain ⟨es, hes, _⟩ := h.revoked
  exact ⟨_, rfl, ((((((Forest.prim1 tagInt [1]).append forest_sigAlg).append hi).append (forest_timeTlv _)).append
    (forest_timeTlv _)).append (hes ▸ Forest.cons1 tagSeq (CrlEnc.forest_encodeList es))).append
    (Forest.cons1 0xA0 (Forest.cons1 tagSeq (forest_seqs _ (msgCrlExtItems_forest d))))⟩

/-- `SignedMessageCrl::from_constructed` reads back what `SignedMessageCrl::encode_ref` writes (the content of
the CRL SEQUENCE). -/
theorem msgCrlBody_enc (d : MsgCrlD) (h : WFCrl d) (hi : Forest d.issuer) (signature : Bytes) :
    msgCrlBody (encodeTbsMsgCrl d ++ sigAlgEnc ++ tlv tagBitString (0 :: signature)) =
      some { d with innerParam := true, outerParam := true, tbs := encodeTbsMsgCrl d, signature := signature } := by
  have ht := encodeTbsMsgCrl_forest d h hi
  unfold msgCrlBody
  simp only [List.append_assoc, ht.append_ne_nil, ht.skipOne, Lists.take_length_sub, takeSigAlg_enc, takeBitString_sig,
    decodeTbsMsgCrl_enc d h, if_false, ne_eq, not_true_eq_false, Option.map_some]

theorem msgSignerInfo_enc (ct sid attrs md sig : Bytes) (st : X509.Civil) (hsid : sid.length = 20)
    (hp : SigObj.parseAttrs false attrs = some (ct, md, st)) :
    msgSignerInfo ct (tlv tagInt [3] ++ (tlv 0x80 sid ++ (digestAlgEnc ++ (tlv 0xA0 attrs ++ (cmsSigAlgEnc ++
      tlv tagOctetString sig))))) = some (sid, attrs, md, sig) := by
  have hk : keyIdOk sid = true := decide_eq_true hsid
  unfold msgSignerInfo
  simp (disch := decide) only [skipU8_enc, takePrim_reads, takeCons_reads, hk, takeDigestAlg_enc, hp,
    takeCmsSigAlg_enc, Bool.not_true, Bool.false_eq_true, if_false, ne_eq, not_true_eq_false]

/-- `SignedMessage::decode` (strict) reads back what `SignedMessage::encode_ref` writes around an identity certificate
and a CRL that their readers accept. -/
theorem decodeSigMsg_encodeSigMsg (content certC crlC sid attrs md sig : Bytes) (st : X509.Civil)
    (cert : IdCertD) (crl : MsgCrlD) (hsid : sid.length = 20)
    (hp : SigObj.parseAttrs false attrs = some (oidProtocolContentType, md, st))
    (hcert : idCertBody certC = some cert) (hcrl : msgCrlBody crlC = some crl) :
    Reads decodeSigMsg (encodeSigMsg content (tlv tagSeq certC) (tlv tagSeq crlC) sid attrs sig) fun _ =>
      some { content := content, cert := cert, crl := crl, sid := sid, attrs := attrs, messageDigest := md,
             signature := sig } := .of fun rest => by
  have hcp : ∀ r, msgCertPart (tlv 0xA0 (tlv tagSeq certC) ++ r) = some (cert, r) := by
    intro r
    have hr := (readTlv_reads tagSeq certC).2
    unfold msgCertPart
    rw [(takeCons_reads 0xA0 _).1 _]
    -- the reader matches the first octet before it calls `readTlv`
    rw [tlv] at hr ⊢
    simp only [hr, hcert]
    rfl
  unfold decodeSigMsg encodeSigMsg msgSignedData msgHead msgEncap msgCrlPart msgSignerPart signerInfoEnc
  simp (disch := decide) only [List.append_assoc, takeCons_reads, takePrim_reads, skipU8_enc,
    takeDigestAlg_enc, takeOid_tlv, hcp, hcrl, msgSignerInfo_enc _ sid attrs md sig st hsid hp,
    ne_eq, not_true_eq_false, if_false]

end Rpki.SigMsgEnc
