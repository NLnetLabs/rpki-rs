/-
  RFC 6492 provisioning messages (`Rpki.Model.ProvMsg`): what `write` emits is read back by the
  reference reader as the same message; the tree is well-formed up to the empty text line of an
  empty certificate or request.  First the unpadded URL-safe Base64 of the key identifiers (`b64Url`), which the
  SLURM files (C15) write too.
-/
import Rpki.Model.ProvMsg
import Rpki.Proofs.PubMsgLemmas
import Rpki.Proofs.ResTextSets
namespace Rpki.ProvMsg
set_option autoImplicit false
open Rpki.Xml Rpki.XmlDoc Rpki.Chain
open Rpki.PubMsg (s lookup BytesOk s_inj s_ne nameOk_s valueOk_s lookup_cons lookup_append lookup_optA)


/- Unpadded URL-safe Base64.  The model has `b64Url` / `unB64Url` in `Model/ProvMsg`; the SLURM files (C15) import them
from there.  `toUrl`, `ofUrl` name the two character maps the model writes as anonymous functions. -/
def toUrl (c : Nat) : Nat := if c = 43 then 45 else if c = 47 then 95 else c
def ofUrl (c : Nat) : Nat := if c = 45 then 43 else if c = 95 then 47 else c

theorem ofUrl_toUrl (c : Nat) (h : c ≠ 45 ∧ c ≠ 95) : ofUrl (toUrl c) = c := by
  unfold toUrl
  by_cases h1 : c = 43
  · rw [if_pos h1, h1]; rfl
  rw [if_neg h1]
  by_cases h2 : c = 47
  · rw [if_pos h2, h2]; rfl
  · rw [if_neg h2, ofUrl, if_neg h.1, if_neg h.2]

theorem unpad_repad (k : Bytes) :
    (b64Encode k).filter (· ≠ 61) ++
      (match ((b64Encode k).filter (· ≠ 61)).length % 4 with | 2 => [61, 61] | 3 => [61] | _ => []) = b64Encode k := by
  have keep : ∀ v rest, (b64Char v :: rest).filter (· ≠ 61) = b64Char v :: rest.filter (· ≠ 61) := fun v rest =>
    List.filter_cons_of_pos (by simpa using (b64Char_range v).2.2)
  fun_induction b64Encode k with
  | case1 => rfl
  | case2 a => rw [keep, keep]; rfl
  | case3 a b => rw [keep, keep, keep]; rfl
  | case4 a b c rest ih =>
    rw [keep, keep, keep, keep]
    simp only [List.length_cons, List.cons_append, Nat.add_assoc, Nat.reduceAdd, Nat.add_mod_right]
    rw [ih]
theorem mem_unpadded (k : Bytes) : ∀ c ∈ (b64Encode k).filter (· ≠ 61), ∃ v, c = b64Char v := by
  intro c hc
  rw [List.mem_filter, decide_eq_true_eq] at hc
  exact forall_mem_b64Encode (P := fun x => x ≠ 61 → ∃ v, x = b64Char v) (fun h => absurd rfl h)
    (fun v _ => ⟨v, rfl⟩) k c hc.1 hc.2

theorem unB64Url_b64Url (k : Bytes) (hk : BytesOk k) : unB64Url (b64Url k) = some k := by
  have hmap : (((b64Encode k).filter (· ≠ 61)).map toUrl).map ofUrl = (b64Encode k).filter (· ≠ 61) := by
    rw [List.map_map]
    conv => rhs; rw [← List.map_id ((b64Encode k).filter (· ≠ 61))]
    apply List.map_congr_left
    intro c hc
    obtain ⟨v, rfl⟩ := mem_unpadded k c hc
    have := b64Char_cases v
    exact ofUrl_toUrl _ (by omega)
  unfold unB64Url b64Url
  show b64Decode ((((b64Encode k).filter (· ≠ 61)).map toUrl).map ofUrl ++
    (match ((((b64Encode k).filter (· ≠ 61)).map toUrl).map ofUrl).length % 4 with
      | 2 => [61, 61] | 3 => [61] | _ => [])) = some k
  rw [hmap, unpad_repad k]
  exact b64Decode_b64Encode k hk

theorem b64Url_valueOk (k : Bytes) : ValueOk (b64Url k) := by
  have key : ∀ c ∈ b64Url k, c ≠ 34 ∧ c ≠ 60 := by
    intro c hc
    unfold b64Url at hc
    obtain ⟨c', hc', rfl⟩ := List.mem_map.1 hc
    obtain ⟨v, rfl⟩ := mem_unpadded k c' hc'
    have := b64Char_cases v
    split
    · omega
    · split <;> omega
  exact ⟨fun h => (key 34 h).1 rfl, fun h => (key 60 h).2 rfl⟩

theorem b64Url_urlsafe (b : List Nat) : (b64Url b).any (fun c => c = 43 || c = 47) = false := by
  rw [List.any_eq_false]
  intro c hc
  unfold b64Url at hc
  rw [List.mem_map] at hc
  obtain ⟨c', _, rfl⟩ := hc
  by_cases h1 : c' = 43
  · subst h1; decide
  · by_cases h2 : c' = 47
    · subst h2; decide
    · simp [h1, h2]

theorem b64Url_length (d : List Nat) : (b64Url d).length = (4 * d.length + 2) / 3 := by
  rw [b64Url, List.length_map]
  have ne : ∀ v, (Xml.b64Char v = 61) = False := fun v => eq_false (Xml.b64Char_range v).2.2
  fun_induction Xml.b64Encode d with
  | case1 => rfl
  | case2 a => simp [ne]
  | case3 a b => simp [ne]
  | case4 a b c rest ih =>
    simp only [List.filter_cons, ne_eq, ne, not_false_eq_true, decide_true, if_true, List.length_cons, ih]
    omega

/-- the fields of a civil time as `rfc3339` can write them: four and two decimal digits -/
def TimeOk (c : X509.Civil) : Prop :=
  c.y < 10000 ∧ c.m < 100 ∧ c.d < 100 ∧ c.h < 100 ∧ c.mi < 100 ∧ c.s < 100

theorem two_pad2 (x : Nat) (h : x < 100) : two (48 + x / 10 % 10) (48 + x % 10) = some x := by
  have h1 : x / 10 ≤ 9 := Nat.le_of_lt_succ (Nat.div_lt_of_lt_mul h)
  have h2 : x % 10 ≤ 9 := Nat.le_of_lt_succ (Nat.mod_lt _ (by decide))
  rw [Nat.mod_eq_of_lt (Nat.lt_succ_of_le h1), two,
    if_pos ⟨Nat.le_add_right _ _, Nat.add_le_add_left h1 48, Nat.le_add_right _ _, Nat.add_le_add_left h2 48⟩,
    Nat.add_sub_cancel_left, Nat.add_sub_cancel_left, Nat.div_add_mod']

theorem readTime_rfc3339 (c : X509.Civil) (h : TimeOk c) : readTime (rfc3339 c) = some c := by
  obtain ⟨y, m, d, hh, mi, ss⟩ := c
  simp only [TimeOk] at h
  simp only [rfc3339, X509.pad4_eq, X509.pad2, List.cons_append, List.nil_append, readTime,
    two_pad2 _ (Nat.div_lt_of_lt_mul h.1 : y / 100 < 100), two_pad2 _ (Nat.mod_lt y (by decide) : y % 100 < 100),
    two_pad2 _ h.2.1, two_pad2 _ h.2.2.1, two_pad2 _ h.2.2.2.1, two_pad2 _ h.2.2.2.2.1, two_pad2 _ h.2.2.2.2.2,
    Nat.div_add_mod']

theorem digit_ne (t : Nat) : 48 + t % 10 ≠ 34 ∧ 48 + t % 10 ≠ 60 := by
  have := Nat.mod_lt t (show 0 < 10 by decide)
  omega

theorem rfc3339_valueOk (c : X509.Civil) : ValueOk (rfc3339 c) := by
  have key : ∀ x ∈ rfc3339 c, x ≠ 34 ∧ x ≠ 60 := by
    simp only [rfc3339, X509.pad4, X509.pad2, List.cons_append, List.nil_append, List.forall_mem_cons, digit_ne,
      ne_eq, Nat.reduceEqDiff, not_false_eq_true, and_self, List.not_mem_nil, false_imp_iff, implies_true]
  exact ⟨fun h => (key 34 h).1 rfl, fun h => (key 60 h).2 rfl⟩

/-- IPv4 chains: canonical in the 128-bit space, every block covering whole IPv4 addresses -/
def V4Canon (c : List Blk) : Prop :=
  Canon (2 ^ 128 - 1) c ∧ ∀ b ∈ c, b.lo % 2 ^ 96 = 0 ∧ b.hi % 2 ^ 96 = 2 ^ 96 - 1

theorem readAs_fmt (c : List Blk) (hc : Canon 4294967295 c) : readAs (ResText.fmtAs c) = some c :=
  ResText.parseAs_fmt c hc

theorem readIp_fmt (v4 : Bool) (c : List Blk) (hc : Canon (2 ^ 128 - 1) c)
    (h4 : v4 = true → ∀ b ∈ c, b.lo % 2 ^ 96 = 0 ∧ b.hi % 2 ^ 96 = 2 ^ 96 - 1) :
    readIp v4 (ResText.fmtIp v4 (c.map ResText.tagged)) = some c := by
  obtain ⟨ts, e, h⟩ := ResText.parseIpItems_tagged v4 c hc h4
  unfold readIp
  rw [e, Option.bind_some]
  simp only [h, (List.all_eq_true.2 fun b hb => decide_eq_true (hc.1 b hb).1), if_true, Chain.fromIter_canon_id _ c hc]

structure ResSet.WF (r : ResSet) : Prop where
  asn : Canon 4294967295 r.asn
  v4 : V4Canon r.v4
  v6 : Canon (2 ^ 128 - 1) r.v6

structure Limit.WF (l : Limit) : Prop where
  asn : ∀ c, l.asn = some c → Canon 4294967295 c
  v4 : ∀ c, l.v4 = some c → V4Canon c
  v6 : ∀ c, l.v6 = some c → Canon (2 ^ 128 - 1) c

structure Issued.WF (i : Issued) : Prop where
  limit : i.limit.WF
  cert : BytesOk i.cert

structure Class.WF (c : Class) : Prop where
  res : c.res.WF
  time : TimeOk c.notAfter
  issued : ∀ i ∈ c.issued, i.WF
  issuer : BytesOk c.issuer

/-- names and URLs need no bound (escaping works on any numbers); certificates, requests and key
identifiers are octets (any length, also empty); resource sets are canonical; the time has fields
of four and two digits; the error status is any number; a description is an admissible text line
(not empty, no `<`, no white space at either end: it is written as it is); an issuance response
carries exactly one certificate -/
def Payload.WF : Payload → Prop
  | .list => True
  | .listResponse cs => ∀ c ∈ cs, c.WF
  | .issue _ l csr => l.WF ∧ BytesOk csr
  | .issueResponse c => c.WF ∧ c.issued.length = 1
  | .revoke _ k => BytesOk k
  | .revokeResponse _ k => BytesOk k
  | .error _ d => ∀ t, d = some t → TextOk t

def Msg.WF (m : Msg) : Prop := m.payload.WF

/-! ### the tree with the certificate bodies as a parameter

`toTree` puts a Base64 text line into every `certificate`, `issuer` and `request` element; the
reference reader drops that line when it is empty.  Both trees are instances of `toTreeW`. -/

def issuedNodeW (bt : Bytes → Option Nodes) (i : Issued) : Node :=
  .elem (s "certificate") ([(s "cert_url", escapeAttr i.url)] ++ limitAttrs i.limit) (bt i.cert)

def classAttrs (c : Class) : List (Bytes × Bytes) :=
  [(s "class_name", escapeAttr c.name), (s "cert_url", escapeAttr c.url),
   (s "resource_set_as", ResText.fmtAs c.res.asn), (s "resource_set_ipv4", fmtV4 c.res.v4),
   (s "resource_set_ipv6", fmtV6 c.res.v6), (s "resource_set_notafter", rfc3339 c.notAfter)]

def issuerNodeW (bt : Bytes → Option Nodes) (d : Bytes) : Node := .elem (s "issuer") [] (bt d)

def classKidsW (bt : Bytes → Option Nodes) (c : Class) : List Node :=
  c.issued.map (issuedNodeW bt) ++ [issuerNodeW bt c.issuer]

def classNodeW (bt : Bytes → Option Nodes) (c : Class) : Node :=
  .elem (s "class") (classAttrs c) (some (Nodes.ofList (classKidsW bt c)))

def requestNodeW (bt : Bytes → Option Nodes) (name : Bytes) (l : Limit) (csr : Bytes) : Node :=
  .elem (s "request") ([(s "class_name", escapeAttr name)] ++ limitAttrs l) (bt csr)

def statusNode (st : Nat) : Node := .elem (s "status") [] (some (.cons (.text (ResText.decimal st)) .nil))
def descNode (t : Bytes) : Node := .elem (s "description") [] (some (.cons (.text t) .nil))

def bodyW (bt : Bytes → Option Nodes) : Payload → List Node
  | .list => []
  | .listResponse cs => cs.map (classNodeW bt)
  | .issue name l csr => [requestNodeW bt name l csr]
  | .issueResponse c => [classNodeW bt c]
  | .revoke n k => [keyNode n k]
  | .revokeResponse n k => [keyNode n k]
  | .error st d => statusNode st :: (match d with | some t => [descNode t] | none => [])

def rootAttrs (m : Msg) : List (Bytes × Bytes) :=
  [(s "xmlns", ns), (s "version", version), (s "sender", escapeAttr m.sender),
   (s "recipient", escapeAttr m.recipient), (s "type", typeName m.payload)]

def toTreeW (bt : Bytes → Option Nodes) (m : Msg) : Node :=
  .elem (s "message") (rootAttrs m) (some (Nodes.ofList (bodyW bt m.payload)))

theorem classNode_eq (c : Class) : classNode c = classNodeW b64Text c := rfl

theorem toTree_eq (m : Msg) : toTree m = toTreeW b64Text m := by
  obtain ⟨sn, rc, p⟩ := m
  cases p <;> rfl

theorem nameOk_class_name : NameOk (s "class_name") := nameOk_s _ (by decide)

theorem limitAttrs_eq (l : Limit) :
    limitAttrs l = PubMsg.optA (s "req_resource_set_as") (l.asn.map ResText.fmtAs) ++
      PubMsg.optA (s "req_resource_set_ipv4") (l.v4.map fmtV4) ++ PubMsg.optA (s "req_resource_set_ipv6") (l.v6.map fmtV6) := by
  obtain ⟨a, b, c⟩ := l
  cases a <;> cases b <;> cases c <;> rfl

theorem limitAttrs_ok (l : Limit) : AttrsOk (limitAttrs l) := by
  rw [limitAttrs_eq]
  refine ok_append (ok_append ?_ ?_) ?_ <;> refine PubMsg.optA_ok (nameOk_s _ (by decide)) _ fun v h => ?_ <;>
    obtain ⟨c, _, rfl⟩ := Option.map_eq_some_iff.1 h
  · exact ResText.fmtAs_value c
  · exact ResText.fmtIp_value true _
  · exact ResText.fmtIp_value false _

theorem limitElem_ok (k v : Bytes) (hk : NameOk k) (l : Limit) : AttrsOk ([(k, escapeAttr v)] ++ limitAttrs l) :=
  ok_append (ok_cons hk (escapeAttr_safe _) ok_nil) (limitAttrs_ok _)

theorem classAttrs_ok (c : Class) : AttrsOk (classAttrs c) :=
  ok_cons nameOk_class_name (escapeAttr_safe _) (ok_cons (nameOk_s _ (by decide)) (escapeAttr_safe _)
    (ok_cons (nameOk_s _ (by decide)) (ResText.fmtAs_value _) (ok_cons (nameOk_s _ (by decide)) (ResText.fmtIp_value true _)
    (ok_cons (nameOk_s _ (by decide)) (ResText.fmtIp_value false _) (ok_cons (nameOk_s _ (by decide)) (rfc3339_valueOk _)
    ok_nil)))))

theorem classNode_reads (c : Class) : Reads (classNodeW b64Text c) (classNodeW readBackBody c) :=
  .node (nameOk_s _ (by decide)) (classAttrs_ok c) <| .append
    (.map _ _ _ fun i _ => .b64 (nameOk_s _ (by decide)) (limitElem_ok _ _ (nameOk_s _ (by decide)) _) i.cert)
    (.one (.b64 (nameOk_s _ (by decide)) ok_nil c.issuer))

theorem keyNode_reads (n k : Bytes) : Reads (keyNode n k) (keyNode n k) :=
  .leaf (nameOk_s _ (by decide))
    (ok_cons nameOk_class_name (escapeAttr_safe _) (ok_cons (nameOk_s _ (by decide)) (b64Url_valueOk _) ok_nil))

theorem decimal_textOk (n : Nat) : TextOk (ResText.decimal n) :=
  have hd := ResText.decimal_digits n
  .of_forall_mem hd.1 (fun h => absurd (hd.2 60 h).2 (by decide)) fun c hc =>
    isWs_of_lt (Nat.lt_of_lt_of_le (by decide) (hd.2 c hc).1)

theorem body_reads (p : Payload) (hw : p.WF) : ReadsL (bodyW b64Text p) (bodyW readBackBody p) := by
  cases p with
  | list => exact .nil
  | listResponse cs => exact .map _ _ _ fun c _ => classNode_reads c
  | issue name l csr => exact .one (.b64 (nameOk_s _ (by decide)) (limitElem_ok _ _ nameOk_class_name _) csr)
  | issueResponse c => exact .one (classNode_reads c)
  | revoke k sk => exact .one (keyNode_reads _ _)
  | revokeResponse k sk => exact .one (keyNode_reads _ _)
  | error st d =>
    refine .cons (.text (nameOk_s _ (by decide)) ok_nil (decimal_textOk st)) ?_
    cases d with
    | none => exact .nil
    | some t => exact .one (.text (nameOk_s _ (by decide)) ok_nil (hw t rfl))

theorem typeName_valueOk (p : Payload) : ValueOk (typeName p) := by
  cases p <;> exact valueOk_s _ (by decide)

theorem toTree_reads (m : Msg) (hw : m.WF) : Reads (toTree m) (toTreeW readBackBody m) :=
  toTree_eq m ▸ .node (nameOk_s _ (by decide))
    (PubMsg.xmlns_version_ok (valueOk_s _ (by decide)) (valueOk_s _ (by decide))
      (ok_cons (nameOk_s _ (by decide)) (escapeAttr_safe _) (ok_cons (nameOk_s _ (by decide)) (escapeAttr_safe _)
      (ok_cons (nameOk_s _ (by decide)) (typeName_valueOk _) ok_nil))))
    (body_reads m.payload hw)

-- `readB64` is word for word `PubMsg.readContent`
theorem readB64_bt {bt : Bytes → Option Nodes} (hbt : PubMsg.ReadsBack bt) (d : Bytes) (hd : BytesOk d) :
    readB64 (bt d) = some d := hbt d hd

theorem lookup_limitAttrs (l : Limit) :
    lookup (s "req_resource_set_as") (limitAttrs l) = l.asn.map ResText.fmtAs ∧
    lookup (s "req_resource_set_ipv4") (limitAttrs l) = l.v4.map fmtV4 ∧
    lookup (s "req_resource_set_ipv6") (limitAttrs l) = l.v6.map fmtV6 := by
  simp only [limitAttrs_eq, lookup_append, lookup_optA, s_inj, String.reduceEq, ↓reduceIte, Option.none_or,
    Option.or_none, and_self]

theorem optRead_eq (name : String) (f : Bytes → Option (List Blk)) (attrs : List (Bytes × Bytes))
    (o : Option (List Blk)) (g : List Blk → Bytes) (h : lookup (s name) attrs = o.map g)
    (hf : ∀ x, o = some x → f (g x) = some x) : optRead name f attrs = some o := by
  rw [optRead, h]
  cases o with
  | none => rfl
  | some x => simp only [Option.map_some, hf x rfl]

theorem read_limitElem (k : String) (v : Bytes) (l : Limit) (hl : l.WF)
    (hk : k ≠ "req_resource_set_as" ∧ k ≠ "req_resource_set_ipv4" ∧ k ≠ "req_resource_set_ipv6") :
    attrText k ([(s k, escapeAttr v)] ++ limitAttrs l) = some v ∧
    readLimit ([(s k, escapeAttr v)] ++ limitAttrs l) = some l := by
  obtain ⟨h1, h2, h3⟩ := lookup_limitAttrs l
  constructor
  · rw [attrText, List.singleton_append, lookup_cons, if_pos rfl, Option.bind_some, unescape_escapeAttr]
  · have skip : ∀ k' : String, k ≠ k' → lookup (s k') ([(s k, escapeAttr v)] ++ limitAttrs l) =
        lookup (s k') (limitAttrs l) := fun k' h => by
      rw [List.singleton_append, lookup_cons, if_neg (s_ne h)]
    rw [readLimit, optRead_eq _ _ _ l.asn _ ((skip _ hk.1).trans h1) fun x hx => readAs_fmt x (hl.asn x hx),
      optRead_eq _ _ _ l.v4 _ ((skip _ hk.2.1).trans h2) fun x hx => readIp_fmt true x (hl.v4 x hx).1 fun _ => (hl.v4 x hx).2,
      optRead_eq _ _ _ l.v6 _ ((skip _ hk.2.2).trans h3) fun x hx => readIp_fmt false x (hl.v6 x hx) nofun]

theorem readIssued_node (bt : Bytes → Option Nodes) (hbt : PubMsg.ReadsBack bt) (i : Issued) (hi : i.WF) :
    readIssued (issuedNodeW bt i) = some i := by
  obtain ⟨h1, h2⟩ := read_limitElem "cert_url" i.url i.limit hi.limit (by simp)
  rw [issuedNodeW, readIssued, if_neg (by simp), h1, h2, readB64_bt hbt _ hi.cert]

theorem issued_ne_issuer_shape (bt : Bytes → Option Nodes) (i : Issued) (name : Bytes) (body : Option Nodes) :
    issuedNodeW bt i ≠ .elem name [] body := by
  unfold issuedNodeW
  intro h
  injection h with _ h2 _
  simp at h2

theorem readClassKids_cons (k k' : Node) (rest : List Node) :
    readClassKids (k :: k' :: rest) =
      match readIssued k, readClassKids (k' :: rest) with
      | some i, some (is, c) => some (i :: is, c)
      | _, _ => none := by
  rw [readClassKids]
  · rfl
  · -- the side condition of the equation: the earlier pattern `[.elem name [] body]` does not match
    intro name body _ h
    cases h

theorem readClassKids_kids (bt : Bytes → Option Nodes) (hbt : PubMsg.ReadsBack bt) (d : Bytes) (hd : BytesOk d) :
    ∀ (is : List Issued), (∀ i ∈ is, i.WF) →
      readClassKids (is.map (issuedNodeW bt) ++ [issuerNodeW bt d]) = some (is, d) := by
  intro is
  induction is with
  | nil =>
    intro _
    unfold issuerNodeW
    simp only [List.map_nil, List.nil_append]
    rw [readClassKids, if_pos rfl, readB64_bt hbt d hd]
    rfl
  | cons i is ih =>
    intro h
    have hi := readIssued_node bt hbt i (h i (by simp))
    have hr := ih (fun x hx => h x (by simp [hx]))
    -- `readClassKids_cons` wants a second child in sight: the next certificate, or the issuer
    cases is with
    | nil =>
      simp only [List.map_cons, List.map_nil, List.cons_append, List.nil_append] at hr ⊢
      rw [readClassKids_cons, hi, hr]
    | cons j js =>
      simp only [List.map_cons, List.cons_append] at hr ⊢
      rw [readClassKids_cons, hi, hr]

theorem readClass_node (bt : Bytes → Option Nodes) (hbt : PubMsg.ReadsBack bt) (c : Class) (hc : c.WF) :
    readClass (classNodeW bt c) = some c := by
  rw [classNodeW, readClass, if_neg (by simp), Nodes.toList_ofList, classKidsW,
    readClassKids_kids bt hbt c.issuer hc.issuer c.issued hc.issued]
  simp only [classAttrs, attrText, lookup_cons, s_inj, String.reduceEq, ↓reduceIte, Option.bind_some,
    unescape_escapeAttr, readAs_fmt _ hc.res.asn, fmtV4, fmtV6, readIp_fmt true _ hc.res.v4.1 fun _ => hc.res.v4.2,
    readIp_fmt false _ hc.res.v6 nofun, readTime_rfc3339 _ hc.time]

theorem readKey_node (n k : Bytes) (hk : BytesOk k) : readKey (keyNode n k) = some (n, k) := by
  rw [keyNode, readKey, if_neg (by simp)]
  simp only [attrText, lookup_cons, s_inj, String.reduceEq, ↓reduceIte, Option.bind_some, unescape_escapeAttr,
    unB64Url_b64Url k hk]

theorem readDecimal_decimal (n : Nat) : readDecimal (ResText.decimal n) = some n := by
  unfold readDecimal
  have h1 : ¬ (ResText.decimal n = [] ∨ (!(ResText.decimal n).all ResText.isDigit) = true) := by
    rw [ResText.decimal_all_isDigit]
    simp only [Bool.not_true, Bool.false_eq_true, or_false]
    exact (ResText.decimal_digits n).1
  rw [if_neg h1, ResText.decimal_value]

theorem readPayload_body (bt : Bytes → Option Nodes) (hbt : PubMsg.ReadsBack bt) (p : Payload) (hp : p.WF) :
    readPayload (typeName p) (bodyW bt p) = some p := by
  cases p with
  | list => simp only [typeName, bodyW, readPayload, ↓reduceIte]
  | listResponse cs =>
    simp only [typeName, bodyW, readPayload, s_inj, String.reduceEq, ↓reduceIte]
    rw [Lists.mapM_map_some readClass (classNodeW bt) cs (fun c hc => readClass_node bt hbt c (hp c hc))]
    rfl
  | issue name l csr =>
    obtain ⟨h1, h2⟩ := read_limitElem "class_name" name l hp.1 (by simp)
    simp only [typeName, bodyW, readPayload, s_inj, String.reduceEq, ↓reduceIte, requestNodeW, ne_eq,
      not_true_eq_false, h1, h2, readB64_bt hbt _ hp.2]
  | issueResponse c =>
    simp only [typeName, bodyW, readPayload, s_inj, String.reduceEq, ↓reduceIte, readClass_node bt hbt c hp.1,
      Option.bind_some, hp.2]
  | revoke n k =>
    simp only [typeName, bodyW, readPayload, s_inj, String.reduceEq, ↓reduceIte, readKey_node n k hp, Option.map_some]
  | revokeResponse n k =>
    simp only [typeName, bodyW, readPayload, s_inj, String.reduceEq, ↓reduceIte, readKey_node n k hp, Option.map_some]
  | error st d =>
    cases d <;>
    simp only [typeName, bodyW, readPayload, s_inj, String.reduceEq, ↓reduceIte, statusNode, descNode,
      readDecimal_decimal, Option.map_some, and_self]

theorem ofTree_W (bt : Bytes → Option Nodes) (hbt : PubMsg.ReadsBack bt) (m : Msg) (hw : m.WF) :
    ofTree (toTreeW bt m) = some m := by
  rw [toTreeW, ofTree]
  simp only [rootAttrs, attrText, lookup_cons, s_inj, String.reduceEq, ↓reduceIte, ne_eq, not_true_eq_false,
    or_self, Option.bind_some, unescape_escapeAttr, Nodes.toList_ofList, readPayload_body bt hbt m.payload hw,
    Option.map_some]

/-- the tree as written (before the reference reader has dropped empty text lines) -/
theorem ofTree_toTree_raw (m : Msg) (hw : m.WF) : ofTree (toTree m) = some m := by
  rw [toTree_eq]
  exact ofTree_W b64Text PubMsg.readContent_b64 m hw

theorem read_write (m : Msg) (hw : m.WF) : read (write m) = some m :=
  read_write_of (norm := id) toTree_reads (ofTree_W readBackBody PubMsg.readContent_readBack) m hw

def sampleRes : ResSet where
  asn := [⟨1, 5⟩, ⟨10, 10⟩]
  v4 := [⟨10 * 2 ^ 120, 11 * 2 ^ 120 - 1⟩, ⟨(192 * 2 ^ 24 + 2 * 2 ^ 8 + 1) * 2 ^ 96, (192 * 2 ^ 24 + 2 * 2 ^ 8 + 3) * 2 ^ 96 - 1⟩]
  v6 := [⟨0xffff01020304, 0xffff01020304⟩, ⟨0x20010db8 * 2 ^ 96, 0x20010db9 * 2 ^ 96 - 1⟩,
    ⟨0x20010db9 * 2 ^ 96 + 5, 0x20010db9 * 2 ^ 96 + 77⟩]

theorem sampleRes_WF : sampleRes.WF := by
  refine ⟨?_, ⟨?_, ?_⟩, ?_⟩ <;> (unfold sampleRes; try unfold Canon) <;> decide

def sampleClass : Class where
  name := [60, 34, 38]
  url := [114, 115, 121, 110, 99]
  res := sampleRes
  notAfter := ⟨2026, 9, 24, 23, 59, 7⟩
  issued := [⟨[117], ⟨some [⟨7, 7⟩], none, some []⟩, [1, 2, 255]⟩]
  issuer := []

theorem sampleClass_WF : sampleClass.WF := by
  refine ⟨sampleRes_WF, by unfold TimeOk sampleClass; simp, ?_, by intro x hx; cases hx⟩
  intro i hi
  simp only [sampleClass, List.mem_cons, List.not_mem_nil, or_false] at hi
  subst hi
  refine ⟨⟨?_, ?_, ?_⟩, by unfold BytesOk; decide⟩
  · intro c hc; simp only [Option.some.injEq] at hc; subst hc; unfold Canon; simp
  · intro c hc; cases hc
  · intro c hc; simp only [Option.some.injEq] at hc; subst hc; exact canon_nil _

example : read (write ⟨[97], [98], .issueResponse sampleClass⟩) = some ⟨[97], [98], .issueResponse sampleClass⟩ :=
  read_write _ ⟨sampleClass_WF, rfl⟩
example : read (write ⟨[97], [98], .listResponse [sampleClass, sampleClass]⟩) =
    some ⟨[97], [98], .listResponse [sampleClass, sampleClass]⟩ :=
  read_write _ (by intro c hc; simp only [List.mem_cons, List.not_mem_nil, or_false] at hc; rcases hc with rfl | rfl <;> exact sampleClass_WF)
example : read (write ⟨[], [], .revoke [120] (List.replicate 20 200)⟩) = some ⟨[], [], .revoke [120] (List.replicate 20 200)⟩ :=
  read_write _ (by unfold Msg.WF Payload.WF BytesOk; decide)
example : read (write ⟨[], [], .error 1101 (some [110, 111, 32, 38, 32, 62])⟩) =
    some ⟨[], [], .error 1101 (some [110, 111, 32, 38, 32, 62])⟩ :=
  read_write _ (by
    intro t ht
    cases ht
    exact ⟨by decide, by decide, fun c hc => by cases hc; decide, fun c hc => by cases hc; decide⟩)

end Rpki.ProvMsg
