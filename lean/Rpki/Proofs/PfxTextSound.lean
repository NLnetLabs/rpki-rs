/-
  What the address readers return fits the address family (`parseV4 < 2^32`, `parseV6 < 2^128`), hence
  every prefix the text readers accept is a prefix as the constructors make it; what `MaxLenPrefix::from_str`
  accepts, taken apart (`parseMlp_inv`).
-/
import Rpki.Proofs.PfxTextLemmas
namespace Rpki.PfxText
open Rpki.Prefix Rpki.ResText Rpki.Arith

theorem parseV4_lt (b : Bytes) (a : Nat) (h : parseV4 b = some a) : a < 2 ^ 32 := by
  unfold parseV4 at h
  split at h
  · next w x y z hm =>
    have hall : ∀ v ∈ [w, x, y, z], v ≤ 255 := fun v hv => by
      obtain ⟨p, hp⟩ := (Lists.mapM_some parseOctet _ _ hm).2 v hv
      exact parseOctet_le p v hp
    have hw := hall w (by simp); have hx := hall x (by simp)
    have hy := hall y (by simp); have hz := hall z (by simp)
    cases h
    omega
  · cases h

theorem parseGroups_lt (b : Bytes) (allowV4 : Bool) (gs : List Nat) (h : parseGroups b allowV4 = some gs) :
    ∀ g ∈ gs, g < 65536 := by
  have hi : ∀ {ps : List Bytes} {init : List Nat}, ps.mapM parseGroup = some init → ∀ g ∈ init, g < 65536 :=
    fun hm g hg => by
      obtain ⟨p, hp⟩ := (Lists.mapM_some parseGroup _ _ hm).2 g hg
      exact parseGroup_lt p g hp
  revert h
  fun_cases parseGroups b allowV4 <;> intro h
  · cases h; nofun
  · cases h; nofun
  · cases h
  · -- the last piece is an IPv4 address: two groups
    obtain ⟨v, hv, rfl⟩ := Option.map_eq_some_iff.1 h
    have := parseV4_lt _ v hv
    exact List.forall_mem_append.2 ⟨hi ‹_›, List.forall_mem_cons.2 ⟨by omega, List.forall_mem_singleton.2 (by omega)⟩⟩
  · cases h
  · obtain ⟨v, hv, rfl⟩ := Option.map_eq_some_iff.1 h
    exact List.forall_mem_append.2 ⟨hi ‹_›, List.forall_mem_singleton.2 (parseGroup_lt _ v hv)⟩

theorem groupsToNat_lt (gs : List Nat) (h : ∀ g ∈ gs, g < 65536) : groupsToNat gs < 65536 ^ gs.length :=
  ofDigits_lt h

theorem parseV6_lt (b : Bytes) (a : Nat) (h : parseV6 b = some a) : a < 2 ^ 128 := by
  have key : ∀ gs : List Nat, gs.length = 8 → (∀ g ∈ gs, g < 65536) → groupsToNat gs < 2 ^ 128 :=
    fun gs hl hlt => by
      have := groupsToNat_lt gs hlt
      rwa [hl] at this
  revert h
  fun_cases parseV6 b <;> intro h <;> cases h
  · exact key _ ‹_ = 8› (parseGroups_lt _ _ _ ‹parseGroups b true = some _›)
  · refine key _ (by simp only [List.length_append, List.length_replicate]; omega)
      (List.forall_mem_append.2 ⟨List.forall_mem_append.2 ⟨parseGroups_lt _ _ _ ‹parseGroups _ false = some _›,
        fun g hg => ?_⟩, parseGroups_lt _ _ _ ‹parseGroups _ true = some _›⟩)
    rw [(List.mem_replicate.1 hg).2]
    decide

theorem parsePfx_inv (relaxed : Bool) (s : Bytes) (p : Pfx) (h : parsePfx relaxed s = .ok p) :
    ∃ t addr len, parseIpAddr t = some addr ∧ len < 256 ∧ pfxNew relaxed addr len = .ok p := by
  revert h
  fun_cases parsePfx relaxed s <;> intro h <;> cases h
  exact ⟨_, _, _, ‹parseIpAddr _ = some _›, parseLen_lt _ _ ‹parseLen _ = some _›, ‹pfxNew _ _ _ = .ok _›⟩

theorem parseIpAddr_lt (b : Bytes) (v4 : Bool) (a : Nat) (h : parseIpAddr b = some (v4, a)) :
    (v4 = true → a < 2 ^ 32) ∧ (v4 = false → a < 2 ^ 128) := by
  unfold parseIpAddr at h
  split at h
  · next x hx =>
    cases h
    exact ⟨fun _ => parseV4_lt b _ hx, fun hf => Bool.noConfusion hf⟩
  · obtain ⟨x, hv, hx⟩ := Option.map_eq_some_iff.1 h
    cases hx
    exact ⟨fun hf => Bool.noConfusion hf, fun _ => parseV6_lt b _ hv⟩

/-- Text cannot make an invalid prefix: what `Prefix::from_str` / `from_str_relaxed` accept is well-formed. -/
theorem parsePfx_wf (relaxed : Bool) (s : Bytes) (p : Pfx) (h : parsePfx relaxed s = .ok p) : PfxWF p := by
  obtain ⟨t, ⟨v4, a⟩, len, haddr, -, hq⟩ := parsePfx_inv relaxed s p h
  have hb := parseIpAddr_lt t v4 a haddr
  cases v4 <;> cases relaxed
  · exact wf_of_newV6 a len _ (hb.2 rfl) hq
  · exact wf_of_newV6Relaxed a len _ (hb.2 rfl) hq
  · exact wf_of_newV4 a len _ (hb.1 rfl) hq
  · exact wf_of_newV4Relaxed a len _ (hb.1 rfl) hq

theorem parseMlp_inv (s : Bytes) (m : Mlp) (h : parseMlp s = .ok m) :
    ∃ t p ml, parsePfx false t = .ok p ∧ mlpNew p ml = .ok m := by
  revert h
  fun_cases parseMlp s <;> intro h <;> cases h
  · exact ⟨_, _, _, ‹parsePfx false _ = .ok _›, ‹mlpNew _ _ = .ok _›⟩
  · exact ⟨_, _, _, ‹parsePfx false _ = .ok _›, ‹mlpNew _ _ = .ok _›⟩

end Rpki.PfxText
