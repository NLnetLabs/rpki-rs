import Rpki.Proofs.ChainLemmas
/-! `Chain::is_encompassed` on two canonical chains is inclusion of the sets they denote: the walk fails only
where a block of the first chain starts below or reaches past the block of the second it is compared with, or
the second chain is used up; each time an address of the first chain lies in a gap of the second or beyond it. -/
namespace Rpki.Chain

theorem isEncompassedAux_iff (M : Nat) (s : List Blk) (o : Blk) (os : List Blk)
    (hs : Canon M s) (ho : Canon M (o :: os)) :
    isEncompassedAux s o os = true ↔ ∀ x, mem s x → mem (o :: os) x := by
  fun_induction isEncompassedAux s o os with
  | case1 o os => exact ⟨fun _ x hx => absurd hx (mem_nil x), fun _ => rfl⟩
  | case2 b bs o hlt o' os' ih =>
    rw [ih hs (canon_cons.1 ho).2.2]
    exact forall_congr' fun x => imp_congr_right fun hx =>
      mem_tail_agree ho x (Nat.lt_of_lt_of_le hlt (canon_head_le hs hx))
  | case3 b bs o hlt =>
    refine ⟨nofun, fun h => ?_⟩
    rcases mem_cons.1 (h b.lo (mem_head_lo hs)) with hh | hh
    · exact absurd hh.2 (Nat.not_le.2 hlt)
    · exact absurd hh (mem_nil _)
  | case4 b bs o os hnlt hin ih =>
    rw [ih (canon_cons.1 hs).2.2 ho]
    exact ⟨fun h x hx => (mem_cons.1 hx).elim
        (fun hh => mem_cons.2 (Or.inl ⟨Nat.le_trans hin.1 hh.1, Nat.le_trans hh.2 hin.2⟩)) (h x),
      fun h x hx => h x (mem_cons.2 (Or.inr hx))⟩
  | case5 b bs o os hnlt hnin =>
    refine ⟨nofun, fun h => ?_⟩
    have hlo : o.lo ≤ b.lo := (mem_of_le_hi ho (Nat.le_of_not_lt hnlt)).1 (h _ (mem_head_lo hs))
    have hhi : o.hi < b.hi := Nat.lt_of_not_le fun hle => hnin ⟨hlo, hle⟩
    exact absurd (h _ (mem_cons.2 (Or.inl ⟨Nat.le_succ_of_le (Nat.le_of_not_lt hnlt), hhi⟩)))
      (not_mem_succ_hi ho)

theorem isEncompassed_iff' (M : Nat) (a b : List Blk) (ha : Canon M a) (hb : Canon M b) :
    isEncompassed a b = true ↔ ∀ x, mem a x → mem b x := by
  cases b with
  | nil =>
    cases a with
    | nil => exact ⟨fun _ x hx => absurd hx (mem_nil x), fun _ => rfl⟩
    | cons y ys => exact ⟨nofun, fun h => absurd (h y.lo (mem_head_lo ha)) (mem_nil _)⟩
  | cons o os => exact isEncompassedAux_iff M a o os ha hb

theorem isEncompassed_singleton (M : Nat) (c : List Blk) (hc : Canon M c) (x : Nat) (hx : x ≤ M) :
    isEncompassed [⟨x, x⟩] c = true ↔ mem c x := by
  have h1 : Canon M [⟨x, x⟩] := canon_cons.2 ⟨⟨Nat.le_refl _, hx⟩, nofun, canon_nil _⟩
  rw [isEncompassed_iff' M _ c h1 hc]
  exact ⟨fun h => h x (mem_head_lo h1), fun h y hy =>
    (mem_cons.1 hy).elim (fun hy => Nat.le_antisymm hy.2 hy.1 ▸ h) fun hy => absurd hy (mem_nil y)⟩

end Rpki.Chain
