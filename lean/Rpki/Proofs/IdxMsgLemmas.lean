/-
  RFC 8183 out-of-band setup messages (`Rpki.Model.IdxMsg`): what `write` emits is read back by the
  reference reader as the same message, also for an empty certificate, whose empty text line the
  reader drops.
-/
import Rpki.Model.IdxMsg
import Rpki.Proofs.PubMsgLemmas
namespace Rpki.IdxMsg
set_option autoImplicit false
open Rpki.Xml Rpki.XmlDoc
open Rpki.PubMsg (s lookup BytesOk s_inj nameOk_s valueOk_s lookup_nil lookup_cons lookup_append)


def Msg.cert : Msg → Bytes
  | .childRequest _ _ c => c
  | .parentResponse _ _ _ _ c => c
  | .publisherRequest _ _ c => c
  | .repositoryResponse _ _ _ _ _ c => c

/-- octets below 256: needed by the Base64 round trip; handles, URIs and tags need no bound -/
def Msg.WF (m : Msg) : Prop := BytesOk m.cert

def taName : Msg → String
  | .childRequest .. => "child_bpki_ta"
  | .parentResponse .. => "parent_bpki_ta"
  | .publisherRequest .. => "publisher_bpki_ta"
  | .repositoryResponse .. => "repository_bpki_ta"

theorem toTree_eq (m : Msg) : toTree m = .elem (toTree m).name (toTree m).attrs (ta (taName m) m.cert) := by
  cases m <;> rfl


theorem name_ok (m : Msg) : NameOk (toTree m).name := by
  cases m <;> rw [toTree, Node.name] <;> exact nameOk_s _ (by decide)

theorem taName_ok (m : Msg) : NameOk (s (taName m)) := by
  cases m <;> exact nameOk_s _ (by decide)

theorem head_ok : AttrsOk head :=
  PubMsg.xmlns_version_ok (valueOk_s _ (by decide)) (valueOk_s _ (by decide)) ok_nil

theorem optAttr_eq (name : String) (v : Option Bytes) :
    optAttr name v = PubMsg.optA (s name) (v.map escapeAttr) := by
  cases v <;> rfl

theorem optAttr_ok (name : String) (hn : NameOk (s name)) (v : Option Bytes) :
    AttrsOk (optAttr name v) := by
  rw [optAttr_eq]
  refine PubMsg.optA_ok hn _ fun w h => ?_
  obtain ⟨u, _, rfl⟩ := Option.map_eq_some_iff.1 h
  exact escapeAttr_safe u

theorem attrs_ok (m : Msg) : AttrsOk (toTree m).attrs := by
  have htag := optAttr_ok "tag" (nameOk_s _ (by decide))
  have esc : ∀ {n v : Bytes} {rest : List (Bytes × Bytes)}, NameOk n → AttrsOk rest →
      AttrsOk ((n, escapeAttr v) :: rest) := fun hn => ok_cons hn (escapeAttr_safe _)
  have hch : NameOk (s "child_handle") := nameOk_s _ (by decide)
  have hph : NameOk (s "publisher_handle") := nameOk_s _ (by decide)
  have hsu : NameOk (s "service_uri") := nameOk_s _ (by decide)
  cases m with
  | childRequest h t c => exact ok_append (ok_append head_ok (esc hch ok_nil)) (htag t)
  | parentResponse p ch u t c =>
    exact ok_append (ok_append head_ok (esc (nameOk_s _ (by decide)) (esc hch (esc hsu ok_nil)))) (htag t)
  | publisherRequest h t c => exact ok_append (ok_append head_ok (esc hph ok_nil)) (htag t)
  | repositoryResponse h u b n t c =>
    exact ok_append (ok_append (ok_append head_ok (esc hph (esc hsu (esc (nameOk_s _ (by decide)) ok_nil))))
      (optAttr_ok _ (nameOk_s _ (by decide)) n)) (htag t)

theorem toTree_reads (m : Msg) : Reads (toTree m)
    (.elem (toTree m).name (toTree m).attrs (some (Nodes.ofList [.elem (s (taName m)) [] (readBackBody m.cert)]))) :=
  toTree_eq m ▸ .node (name_ok m) (attrs_ok m) (.one (.b64 (taName_ok m) ok_nil m.cert))


theorem readTa_elem (name : String) : ∀ b : Option Nodes,
    readTa name (some (.cons (.elem (s name) [] b) .nil)) = PubMsg.readContent b
  | none => rfl
  | some .nil => by rw [readTa, if_pos rfl, PubMsg.readContent]
  | some (.cons (.text t) .nil) => by rw [readTa, if_pos rfl, PubMsg.readContent]
  | some (.cons (.text t) (.cons _ _)) => rfl
  | some (.cons (.elem ..) _) => rfl

theorem optAttrRead_elim (name : String) (attrs : List (Bytes × Bytes)) :
    optAttrRead name attrs = (lookup (s name) attrs).elim (some none) fun v => (unescapeAll v).map some := by
  unfold optAttrRead; cases lookup (s name) attrs <;> rfl

theorem elim_map_escapeAttr (t : Option Bytes) :
    ((t.map escapeAttr).elim (some none) fun v => (unescapeAll v).map some) = some t := by
  cases t with
  | none => rfl
  | some v => simp only [Option.map_some, Option.elim_some, unescape_escapeAttr]

theorem ofTree_parts (m : Msg) (body : Option Nodes) (hb : readTa (taName m) body = some m.cert) :
    ofTree (.elem (toTree m).name (toTree m).attrs body) = some m := by
  cases m <;> simp only [taName, Msg.cert] at hb <;>
  simp only [ofTree, Node.name, Node.attrs, toTree, head, attr, optAttrRead_elim, lookup_append, lookup_cons, lookup_nil,
    optAttr_eq, PubMsg.lookup_optA, s_inj, String.reduceEq, ↓reduceIte, Option.none_or, Option.or_none, ne_eq,
    not_true_eq_false, or_self, Option.bind_some, unescape_escapeAttr, elim_map_escapeAttr, hb]

theorem ofTree_toTree (m : Msg) (hw : m.WF) : ofTree (toTree m) = some m := by
  rw [toTree_eq]
  exact ofTree_parts m _ ((readTa_elem _ _).trans (PubMsg.readContent_b64 _ hw))

theorem read_write (m : Msg) (hw : m.WF) : read (write m) = some m :=
  read_write_of (norm := id) (P := Msg.WF) (fun m _ => toTree_reads m)
    (fun m hw => ofTree_parts m _ ((readTa_elem _ _).trans (PubMsg.readContent_readBack _ hw))) m hw


theorem tag_ne_names :
    s "tag" ≠ s "xmlns" ∧ s "tag" ≠ s "version" ∧ s "tag" ≠ s "child_handle" ∧ s "tag" ≠ s "parent_handle" ∧
    s "tag" ≠ s "publisher_handle" ∧ s "tag" ≠ s "service_uri" ∧ s "tag" ≠ s "sia_base" ∧
    s "tag" ≠ s "rrdp_notification_uri" := by
  simp only [ne_eq, s_inj, String.reduceEq, not_false_eq_true, and_self]

theorem notify_ne_names :
    s "rrdp_notification_uri" ≠ s "xmlns" ∧ s "rrdp_notification_uri" ≠ s "version" ∧
    s "rrdp_notification_uri" ≠ s "publisher_handle" ∧ s "rrdp_notification_uri" ≠ s "service_uri" ∧
    s "rrdp_notification_uri" ≠ s "sia_base" := by
  simp only [ne_eq, s_inj, String.reduceEq, not_false_eq_true, and_self]


def sampleChild : Msg := .childRequest [60, 34, 38] none []
def sampleRepo : Msg := .repositoryResponse [97] [98, 38] [99] (some [100]) (some []) [0, 255, 7, 1]

theorem sampleChild_WF : sampleChild.WF := by intro x hx; cases hx
theorem sampleRepo_WF : sampleRepo.WF := by unfold Msg.WF BytesOk sampleRepo Msg.cert; decide

/-- the hypotheses are satisfiable, also with an empty certificate -/
example : read (write sampleChild) = some sampleChild := read_write _ sampleChild_WF
example : read (write sampleRepo) = some sampleRepo := read_write _ sampleRepo_WF

/-- why the written tree is well-formed only for a certificate that is not empty (`C11.idexchange_tree_wf`): its text
line would be empty -/
theorem cert_nonEmpty_needed : ¬ (toTree (.childRequest [] none [])).WF := by
  intro h
  rw [toTree_eq, Node.WF_elem] at h
  have h1 := h.2.2
  simp only [ta] at h1
  rw [Nodes.WF_cons, Node.WF_elem] at h1
  have h2 := h1.1.2.2
  simp only at h2
  rw [Nodes.WF_cons, Node.WF_text] at h2
  exact h2.1.1 rfl

end Rpki.IdxMsg
