import Rpki.Proofs.ChainEnc
import Rpki.Proofs.ChainTrim
import Rpki.Proofs.ChainDiff
import Rpki.Proofs.ChainFromIter
/-! What the resource types build from `from_iter`, `trim`, `difference` and `is_encompassed` (union,
intersection), when a difference is empty, the tests of a single block or a list of ranges against a
chain, and the ASN count. -/
namespace Rpki.Chain
open Rpki.Consts

theorem canon_wf {M : Nat} {c : List Blk} (h : Canon M c) : ∀ b ∈ c, b.lo ≤ b.hi ∧ b.hi ≤ M := h.1

theorem union_spec' (M : Nat) (a b : List Blk) (ha : Canon M a) (hb : Canon M b) :
    Canon M (union M a b) ∧ ∀ x, mem (union M a b) x ↔ (mem a x ∨ mem b x) := by
  obtain ⟨h1, h2⟩ := fromIter_spec' M (a ++ b) fun y hy =>
    (List.mem_append.1 hy).elim (ha.1 y) (hb.1 y)
  exact ⟨h1, fun x => (h2 x).trans (mem_append_iff a b x)⟩

theorem inter_spec' (M : Nat) (a b : List Blk) (ha : Canon M a) (hb : Canon M b) :
    Canon M (inter M a b) ∧ ∀ x, mem (inter M a b) x ↔ (mem a x ∧ mem b x) := by
  unfold inter
  have h := trim_spec' M a b ha hb
  generalize trim M a b = t at h
  cases t with
  | ok u => exact ⟨ha, fun x => ⟨fun hx => ⟨hx, h x hx⟩, And.left⟩⟩
  | error r => exact h

theorem canon_eq_nil (M : Nat) (c : List Blk) (hc : Canon M c) (h : ∀ x, ¬ mem c x) : c = [] :=
  canon_unique' M c [] hc (canon_nil M) fun x => ⟨fun hx => absurd hx (h x), fun hx => absurd hx (mem_nil x)⟩

theorem difference_eq_nil (M : Nat) (a b : List Blk) (ha : Canon M a) (hb : Canon M b) :
    difference a b = [] ↔ ∀ x, mem a x → mem b x := by
  obtain ⟨hc, hm⟩ := difference_spec' M a b ha hb
  constructor
  · intro e x hx
    refine Classical.byContradiction fun hn => mem_nil x ?_
    rw [← e]
    exact (hm x).2 ⟨hx, hn⟩
  · exact fun h => canon_eq_nil M _ hc fun x hx => ((hm x).1 hx).2 (h x ((hm x).1 hx).1)

theorem difference_isEmpty_iff_eq (M : Nat) (a b : List Blk) (ha : Canon M a) (hb : Canon M b) :
    (difference a b).isEmpty = true ∧ (difference b a).isEmpty = true ↔ a = b := by
  rw [List.isEmpty_iff, List.isEmpty_iff, difference_eq_nil M a b ha hb, difference_eq_nil M b a hb ha]
  exact ⟨fun h => canon_unique' M a b ha hb fun z => ⟨h.1 z, h.2 z⟩, fun h => h ▸ ⟨fun _ h => h, fun _ h => h⟩⟩

theorem interval_in_one_block (M : Nat) : ∀ (c : List Blk), Canon M c → ∀ (lo hi : Nat), lo ≤ hi →
    (∀ x, lo ≤ x → x ≤ hi → mem c x) → ∃ r ∈ c, r.lo ≤ lo ∧ hi ≤ r.hi := by
  intro c
  induction c with
  | nil => exact fun _ lo hi h hx => absurd (hx lo (Nat.le_refl _) h) (mem_nil lo)
  | cons b bs ih =>
    intro hc lo hi hle hx
    rcases mem_cons.1 (hx lo (Nat.le_refl _) hle) with hb | hb
    · refine ⟨b, List.mem_cons_self, hb.1, Nat.le_of_not_lt fun h => ?_⟩
      exact not_mem_succ_hi hc (hx _ (Nat.le_succ_of_le hb.2) h)
    · have hab := Nat.lt_of_succ_lt (canon_tail_above hc hb)
      obtain ⟨r, hr, hr2⟩ := ih (canon_cons.1 hc).2.2 lo hi hle fun x h1 h2 =>
        (mem_tail_agree hc x (Nat.lt_of_lt_of_le hab h1)).2 (hx x h1 h2)
      exact ⟨r, List.mem_cons_of_mem _ hr, hr2⟩

theorem containsBlock_sound (c : List Blk) (b : Blk) (h : containsBlock c b = true) :
    ∀ x, b.lo ≤ x → x ≤ b.hi → mem c x := by
  unfold containsBlock at h
  simp only [List.any_eq_true, Bool.and_eq_true, decide_eq_true_eq] at h
  obtain ⟨r, hr, h⟩ := h
  exact fun x h1 h2 => ⟨r, hr, Nat.le_trans h.1 h1, Nat.le_trans h2 h.2⟩

theorem containsBlock_iff' (M : Nat) (c : List Blk) (hc : Canon M c) (b : Blk) (hb : b.lo ≤ b.hi) :
    containsBlock c b = true ↔ ∀ x, b.lo ≤ x → x ≤ b.hi → mem c x := by
  refine ⟨containsBlock_sound c b, fun h => ?_⟩
  unfold containsBlock
  simp only [List.any_eq_true, Bool.and_eq_true, decide_eq_true_eq]
  exact interval_in_one_block M c hc b.lo b.hi hb h

/-- The test `RouteOriginAttestation::verify` makes per address family (`f` gives the range of a ROA address): no addresses, or
resources present and every range inside one block of them. The model does not name it: each half of
`SigObj.roaVerify` is `coversAll` only up to unfolding. -/
def coversAll {α : Type} (f : α → Blk) (l : List α) (c : List Blk) : Bool :=
  l.isEmpty || (!c.isEmpty && l.all fun a => containsBlock c (f a))

theorem coversAll_sound {α : Type} (f : α → Blk) (l : List α) (c : List Blk) (h : coversAll f l c = true) :
    ∀ a ∈ l, ∀ x, (f a).lo ≤ x → x ≤ (f a).hi → mem c x := by
  intro a ha
  cases l with
  | nil => cases ha
  | cons y t =>
    simp only [coversAll, List.isEmpty_cons, Bool.false_or, Bool.and_eq_true, List.all_eq_true] at h
    exact containsBlock_sound c (f a) (h.2 a ha)

theorem coversAll_iff {α : Type} (f : α → Blk) (M : Nat) (l : List α) (c : List Blk) (hc : Canon M c)
    (hl : ∀ a ∈ l, (f a).lo ≤ (f a).hi) :
    coversAll f l c = true ↔ ∀ a ∈ l, ∀ x, (f a).lo ≤ x → x ≤ (f a).hi → mem c x := by
  refine ⟨coversAll_sound f l c, fun h => ?_⟩
  cases l with
  | nil => rfl
  | cons y t =>
    simp only [coversAll, List.isEmpty_cons, Bool.false_or, Bool.and_eq_true, List.all_eq_true, Bool.not_eq_true']
    refine ⟨?_, fun a ha => (containsBlock_iff' M c hc (f a) (hl a ha)).2 (h a ha)⟩
    cases c with
    | nil => exact absurd (h y List.mem_cons_self _ (Nat.le_refl _) (hl y List.mem_cons_self)) (mem_nil _)
    | cons _ _ => rfl

theorem intersectsBlock_iff' (c : List Blk) (hc : ∀ r ∈ c, r.lo ≤ r.hi) (b : Blk) (hb : b.lo ≤ b.hi) :
    intersectsBlock c b = true ↔ ∃ x, b.lo ≤ x ∧ x ≤ b.hi ∧ mem c x := by
  unfold intersectsBlock intersects
  simp only [List.any_eq_true, Bool.and_eq_true, decide_eq_true_eq, ge_iff_le]
  constructor
  · rintro ⟨r, hr, h⟩
    exact ⟨max r.lo b.lo, Nat.le_max_right .., Nat.max_le.2 ⟨h.1, hb⟩, r, hr, Nat.le_max_left ..,
      Nat.max_le.2 ⟨hc r hr, h.2⟩⟩
  · rintro ⟨x, h1, h2, r, hr, h3, h4⟩
    exact ⟨r, hr, Nat.le_trans h3 h2, Nat.le_trans h1 h4⟩

/-- the number of items of a chain with disjoint blocks, without the 32-bit limit of `asn_count` -/
def total (c : List Blk) : Nat := (c.map fun b => b.hi - b.lo + 1).foldl (· + ·) 0

theorem saturates : asnCountSaturates = true := rfl

theorem asnCount_spec' (c : List Blk) : asnCount c = some (min 4294967295 (total c)) := by
  unfold asnCount
  rw [if_pos saturates]
  refine congrArg some ?_
  suffices h : ∀ (K : Nat) (l : List Blk) (acc : Nat), acc ≤ K →
      l.foldl (fun acc b => min K (acc + min K (b.hi - b.lo + 1))) acc = min K (acc + total l) from
    (h _ c 0 (Nat.zero_le _)).trans (by rw [Nat.zero_add])
  intro K l
  induction l with
  | nil => exact fun acc h => (Nat.min_eq_right h).symm
  | cons b bs ih =>
    intro acc h
    rw [List.foldl_cons, ih _ (Nat.min_le_left ..), Arith.sat_step]
    show _ = min K (acc + (bs.map _).foldl _ (0 + _))
    rw [Nat.add_comm 0, List.foldl_assoc]
    rfl

end Rpki.Chain
