import Rpki.Model.Chain
/-! The set a chain of blocks denotes (`mem`) and the canonical form the library keeps chains in (`Canon`): membership is
decided by the head block up to its upper bound, and just past it there is a gap, which is also why the form is unique; `==` is specified here.
`Runs` and `Puts` are the shapes in which the other operations and their accumulating loops are specified. -/
namespace Rpki.Chain

def mem (c : List Blk) (x : Nat) : Prop := ∃ b ∈ c, b.lo ≤ x ∧ x ≤ b.hi

def Canon (M : Nat) (c : List Blk) : Prop :=
  (∀ b ∈ c, b.lo ≤ b.hi ∧ b.hi ≤ M) ∧ c.Pairwise (fun a b => a.hi + 1 < b.lo)

theorem canon_nil (M : Nat) : Canon M [] := ⟨nofun, List.Pairwise.nil⟩

theorem canon_cons {M : Nat} {b : Blk} {c : List Blk} :
    Canon M (b :: c) ↔ (b.lo ≤ b.hi ∧ b.hi ≤ M) ∧ (∀ x ∈ c, b.hi + 1 < x.lo) ∧ Canon M c := by
  unfold Canon
  rw [List.forall_mem_cons, List.pairwise_cons]
  exact ⟨fun ⟨⟨h1, h2⟩, h3, h4⟩ => ⟨h1, h3, h2, h4⟩, fun ⟨h1, h3, h2, h4⟩ => ⟨⟨h1, h2⟩, h3, h4⟩⟩

theorem canon_snoc {M : Nat} {e : Blk} {acc : List Blk} :
    Canon M (e :: acc).reverse ↔
      (e.lo ≤ e.hi ∧ e.hi ≤ M) ∧ (∀ b ∈ acc, b.hi + 1 < e.lo) ∧ Canon M acc.reverse := by
  unfold Canon
  rw [List.reverse_cons, List.pairwise_append]
  constructor
  · rintro ⟨hw, hp, -, hlt⟩
    exact ⟨hw e (List.mem_append_right _ (List.mem_singleton.2 rfl)),
      fun b hb => hlt b (List.mem_reverse.2 hb) e (List.mem_singleton.2 rfl),
      fun b hb => hw b (List.mem_append_left _ hb), hp⟩
  · rintro ⟨he, hlt, hw, hp⟩
    refine ⟨fun b hb => ?_, hp, List.pairwise_singleton _ _, fun a ha b hb => ?_⟩
    · rcases List.mem_append.1 hb with hb | hb
      · exact hw b hb
      · exact List.mem_singleton.1 hb ▸ he
    · exact List.mem_singleton.1 hb ▸ hlt a (List.mem_reverse.1 ha)

theorem mem_nil (x : Nat) : ¬ mem [] x := nofun

theorem mem_cons {b : Blk} {c : List Blk} {x : Nat} : mem (b :: c) x ↔ (b.lo ≤ x ∧ x ≤ b.hi) ∨ mem c x := by
  simp only [mem, List.mem_cons, exists_eq_or_imp]

theorem mem_reverse {c : List Blk} {x : Nat} : mem c.reverse x ↔ mem c x := by
  unfold mem
  simp only [List.mem_reverse]

theorem mem_append_iff (a b : List Blk) (x : Nat) : mem (a ++ b) x ↔ mem a x ∨ mem b x := by
  unfold mem
  simp only [List.mem_append, or_and_right, exists_or]

section Head
variable {M : Nat} {b : Blk} {c : List Blk} (h : Canon M (b :: c))
include h

theorem canon_tail_above {x : Nat} (hx : mem c x) : b.hi + 1 < x := by
  obtain ⟨y, hy, hy1, _⟩ := hx
  exact Nat.lt_of_lt_of_le ((canon_cons.1 h).2.1 y hy) hy1

theorem mem_head_lo : mem (b :: c) b.lo :=
  mem_cons.2 (Or.inl ⟨Nat.le_refl _, (canon_cons.1 h).1.1⟩)

theorem canon_head_le {x : Nat} (hx : mem (b :: c) x) : b.lo ≤ x := by
  rcases mem_cons.1 hx with hh | hh
  · exact hh.1
  · have := canon_tail_above h hh
    have := (canon_cons.1 h).1.1
    omega

theorem not_mem_succ_hi : ¬ mem (b :: c) (b.hi + 1) := fun hx =>
  (mem_cons.1 hx).elim (fun hh => Nat.not_succ_le_self _ hh.2)
    (fun hh => Nat.lt_irrefl _ (canon_tail_above h hh))

theorem mem_of_le_hi {x : Nat} (hx : x ≤ b.hi) : mem (b :: c) x ↔ b.lo ≤ x :=
  ⟨canon_head_le h, fun hl => mem_cons.2 (Or.inl ⟨hl, hx⟩)⟩

theorem mem_tail_iff (x : Nat) : mem c x ↔ mem (b :: c) x ∧ b.hi < x := by
  constructor
  · intro hx
    exact ⟨mem_cons.2 (Or.inr hx), Nat.lt_of_succ_lt (canon_tail_above h hx)⟩
  · rintro ⟨hx, hlt⟩
    rcases mem_cons.1 hx with hh | hh
    · exact absurd hh.2 (Nat.not_le.2 hlt)
    · exact hh

theorem mem_tail_agree (x : Nat) (hx : b.hi < x) : mem c x ↔ mem (b :: c) x :=
  (mem_tail_iff h x).trans (and_iff_left hx)

theorem mem_above_head {t : Nat} (ht : t < b.lo) (x : Nat) : mem (b :: c) x ↔ mem (b :: c) x ∧ t < x :=
  ⟨fun hx => ⟨hx, Nat.lt_of_lt_of_le ht (canon_head_le h hx)⟩, And.left⟩

theorem mem_chop_iff {t l : Nat} (hl : l = max b.lo (t + 1)) (ht : t < b.hi) (x : Nat) :
    mem (⟨l, b.hi⟩ :: c) x ↔ mem (b :: c) x ∧ t < x := by
  rw [mem_cons, mem_cons, hl]
  constructor
  · rintro (hh | hh)
    · exact ⟨Or.inl ⟨(Nat.max_le.1 hh.1).1, hh.2⟩, (Nat.max_le.1 hh.1).2⟩
    · exact ⟨Or.inr hh, Nat.lt_trans ht (Nat.lt_of_succ_lt (canon_tail_above h hh))⟩
  · rintro ⟨hh | hh, hl⟩
    · exact Or.inl ⟨Nat.max_le.2 ⟨hh.1, hl⟩, hh.2⟩
    · exact Or.inr hh

theorem canon_chop {l : Nat} (h2 : l ≤ b.hi) : Canon M (⟨l, b.hi⟩ :: c) :=
  canon_cons.2 ⟨⟨h2, (canon_cons.1 h).1.2⟩, (canon_cons.1 h).2⟩

end Head

/-! Seen from a frontier `t` at or below the upper bounds of both head blocks `s` and `o`: up to `t`
membership in either chain is decided by the head's lower bound, so the part of the intersection
up to `t` is the block `[max s.lo o.lo, t]` and the part of the difference is `[s.lo, t]` below
`o.lo`; above `t` the pass goes on with `S'`, what the first chain has above `t`, and any `R'` that
agrees with the second chain above `t`. -/

section Frontier
variable {M : Nat} {s o : Blk} {ss os S' R' : List Blk} (hs : Canon M (s :: ss)) (ho : Canon M (o :: os))
  {t : Nat} (hts : t ≤ s.hi) (hto : t ≤ o.hi) (hS : ∀ x, mem S' x ↔ mem (s :: ss) x ∧ t < x)
  (hR : ∀ x, t < x → (mem R' x ↔ mem (o :: os) x)) (x : Nat)
include hs ho hts hto hS hR

theorem inter_step :
    (max s.lo o.lo ≤ x ∧ x ≤ t) ∨ (mem S' x ∧ mem R' x) ↔ mem (s :: ss) x ∧ mem (o :: os) x := by
  rw [hS]
  rcases Nat.lt_or_ge t x with hx | hx
  · rw [hR x hx]
    exact ⟨fun h => h.elim (fun h => absurd h.2 (Nat.not_le.2 hx)) (fun h => ⟨h.1.1, h.2⟩),
      fun h => Or.inr ⟨⟨h.1, hx⟩, h.2⟩⟩
  · rw [mem_of_le_hi hs (Nat.le_trans hx hts), mem_of_le_hi ho (Nat.le_trans hx hto), Nat.max_le]
    exact ⟨fun h => h.elim And.left (fun h => absurd h.1.2 (Nat.not_lt.2 hx)), fun h => Or.inl ⟨h, hx⟩⟩

theorem diff_step :
    (s.lo ≤ x ∧ x ≤ t ∧ x < o.lo) ∨ (mem S' x ∧ ¬ mem R' x) ↔ mem (s :: ss) x ∧ ¬ mem (o :: os) x := by
  rw [hS]
  rcases Nat.lt_or_ge t x with hx | hx
  · rw [hR x hx]
    exact ⟨fun h => h.elim (fun h => absurd h.2.1 (Nat.not_le.2 hx)) (fun h => ⟨h.1.1, h.2⟩),
      fun h => Or.inr ⟨⟨h.1, hx⟩, h.2⟩⟩
  · rw [mem_of_le_hi hs (Nat.le_trans hx hts), mem_of_le_hi ho (Nat.le_trans hx hto), Nat.not_le]
    exact ⟨fun h => h.elim (fun h => ⟨h.1, h.2.2⟩) (fun h => absurd h.1.2 (Nat.not_lt.2 hx)),
      fun h => Or.inl ⟨h.1, hx, h.2⟩⟩

end Frontier

theorem head_hi_le {M : Nat} {a b : Blk} {as bs : List Blk} (ha : Canon M (a :: as))
    (hlo : a.lo = b.lo) (h : ∀ z, mem (b :: bs) z → mem (a :: as) z) :
    b.hi ≤ a.hi :=
  Nat.le_of_not_lt fun hlt => not_mem_succ_hi ha
    (h _ (mem_cons.2 (Or.inl ⟨hlo ▸ Nat.le_succ_of_le (canon_cons.1 ha).1.1, hlt⟩)))

theorem canon_unique' (M : Nat) : ∀ (a b : List Blk), Canon M a → Canon M b → (∀ x, mem a x ↔ mem b x) → a = b := by
  intro a
  induction a with
  | nil =>
    intro b _ hb h
    cases b with
    | nil => rfl
    | cons y ys => exact absurd ((h y.lo).2 (mem_head_lo hb)) (mem_nil _)
  | cons x xs ih =>
    intro b ha hb h
    cases b with
    | nil => exact absurd ((h x.lo).1 (mem_head_lo ha)) (mem_nil _)
    | cons y ys =>
      -- the smallest element of both sets is the head's lower bound, the first gap follows its upper
      have hlo : x.lo = y.lo := Nat.le_antisymm (canon_head_le ha ((h _).2 (mem_head_lo hb)))
        (canon_head_le hb ((h _).1 (mem_head_lo ha)))
      have hhi : x.hi = y.hi := Nat.le_antisymm (head_hi_le hb hlo.symm fun z => (h z).1)
        (head_hi_le ha hlo fun z => (h z).2)
      obtain rfl : x = y := by
        cases x; cases y; exact congr (congrArg Blk.mk hlo) hhi
      refine congrArg _ (ih ys (canon_cons.1 ha).2.2 (canon_cons.1 hb).2.2 fun z => ?_)
      rw [mem_tail_iff ha, mem_tail_iff hb, h z]

theorem chainEq_iff' : ∀ (a b : List Blk), chainEq a b = true ↔ a = b := by
  intro a
  induction a with
  | nil => intro b; cases b <;> simp [chainEq]
  | cons x xs ih =>
    intro b
    cases b with
    | nil => simp [chainEq]
    | cons y ys =>
      cases x; cases y
      simp only [chainEq, Bool.and_eq_true, beq_iff_eq, ih ys, List.cons.injEq, Blk.mk.injEq]

/-- `c` is the canonical chain of the set `P`: the form every specification of a chain operation has. -/
def Runs (M : Nat) (P : Nat → Prop) (c : List Blk) : Prop := Canon M c ∧ ∀ x, mem c x ↔ P x

theorem Runs.nil {M : Nat} {P : Nat → Prop} (h : ∀ x, ¬ P x) : Runs M P [] :=
  ⟨canon_nil M, fun x => ⟨fun hx => absurd hx (mem_nil x), fun hx => absurd hx (h x)⟩⟩

theorem Runs.congr {M : Nat} {P P' : Nat → Prop} {c : List Blk} (h : ∀ x, P x ↔ P' x) (hr : Runs M P' c) :
    Runs M P c :=
  ⟨hr.1, fun x => (hr.2 x).trans (h x).symm⟩

/-- A canonical chain is the first run `n` of its set, a gap, and the canonical chain of what lies beyond: the gap is
asked of the set `P'`, not of the blocks of `c`. -/
theorem Runs.cons {M : Nat} {P P' : Nat → Prop} {n : Blk} {c : List Blk} (hn : n.lo ≤ n.hi ∧ n.hi ≤ M)
    (hP : ∀ x, P x ↔ (n.lo ≤ x ∧ x ≤ n.hi) ∨ P' x) (hgap : ∀ x, P' x → n.hi + 1 < x) (hr : Runs M P' c) :
    Runs M P (n :: c) :=
  ⟨canon_cons.2 ⟨hn, fun y hy => hgap _ ((hr.2 _).1 ⟨y, hy, Nat.le_refl _, (hr.1.1 y hy).1⟩), hr.1⟩,
    fun x => mem_cons.trans ((or_congr_right (hr.2 x)).trans (hP x).symm)⟩

/-- What a loop returns that has put out `acc` (last block first) and has the set `P` still to put out: `acc` is a
prefix of the result, the rest is the canonical chain of `P`, and nothing need be known about `acc`. -/
def Puts (M : Nat) (acc : List Blk) (P : Nat → Prop) (r : List Blk) : Prop :=
  ∃ tl, r = acc.reverse ++ tl ∧ Runs M P tl

theorem Puts.done {M : Nat} {P : Nat → Prop} (acc : List Blk) (h : ∀ x, ¬ P x) : Puts M acc P acc.reverse :=
  ⟨[], (List.append_nil _).symm, Runs.nil h⟩

theorem Puts.congr {M : Nat} {P P' : Nat → Prop} {acc r : List Blk} (h : ∀ x, P x ↔ P' x) :
    Puts M acc P' r → Puts M acc P r :=
  fun ⟨tl, e, hr⟩ => ⟨tl, e, hr.congr h⟩

theorem Puts.emit {M : Nat} {P P' : Nat → Prop} {n : Blk} {acc r : List Blk} (hn : n.lo ≤ n.hi ∧ n.hi ≤ M)
    (hP : ∀ x, P x ↔ (n.lo ≤ x ∧ x ≤ n.hi) ∨ P' x) (hgap : ∀ x, P' x → n.hi + 1 < x) :
    Puts M (n :: acc) P' r → Puts M acc P r :=
  fun ⟨tl, e, hr⟩ => ⟨n :: tl, by rw [e, List.reverse_cons, List.append_assoc]; rfl, hr.cons hn hP hgap⟩

theorem Puts.runs {M : Nat} {P : Nat → Prop} {r : List Blk} : Puts M [] P r → Runs M P r :=
  fun ⟨_, e, hr⟩ => e ▸ hr

end Rpki.Chain
