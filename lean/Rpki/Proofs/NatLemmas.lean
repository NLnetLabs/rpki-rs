/-
  Arithmetic of natural numbers that several proof modules need: numbers written `q * m + r` with
  `r < m` (quotient and remainder, base-`b` digits, the order of such keys), differences modulo `m`, multiples of a divisor,
  ceilings of quotients, lexicographic trichotomy, sums cut off at a bound.
-/
namespace Rpki.Arith

theorem mul_add_lt {q r n m : Nat} (hq : q < n) (hr : r < m) : q * m + r < n * m :=
  calc q * m + r < q * m + m := Nat.add_lt_add_left hr _
    _ = (q + 1) * m := (Nat.succ_mul q m).symm
    _ ≤ n * m := Nat.mul_le_mul_right m hq

theorem mul_add_div_mod {q r m : Nat} (h : r < m) : (q * m + r) / m = q ∧ (q * m + r) % m = r := by
  rw [Nat.add_comm, Nat.add_mul_div_right _ _ (Nat.zero_lt_of_lt h), Nat.add_mul_mod_self_right,
    Nat.div_eq_of_lt h, Nat.mod_eq_of_lt h, Nat.zero_add]
  exact ⟨rfl, rfl⟩

theorem digits4_horner {b a : Nat} (h : a < b * b * b * b) :
    ((a / (b * b * b) % b * b + a / (b * b) % b) * b + a / b % b) * b + a % b = a := by
  rw [Nat.mod_eq_of_lt (Nat.div_lt_of_lt_mul h), ← Nat.div_div_eq_div_mul, ← Nat.div_div_eq_div_mul,
    Nat.div_add_mod', Nat.div_add_mod', Nat.div_add_mod']

theorem digits4_sum {b a : Nat} (h : a < b * b * b * b) :
    a / (b * b * b) % b * (b * b * b) + a / (b * b) % b * (b * b) + a / b % b * b + a % b = a := by
  have := digits4_horner h
  generalize a / (b * b * b) % b = x, a / (b * b) % b = y at this ⊢
  rwa [Nat.add_mul, Nat.add_mul, Nat.add_mul, Nat.mul_assoc x, Nat.mul_assoc x, Nat.mul_assoc y] at this

theorem compare_add_left (a b c : Nat) : compare (c + a) (c + b) = compare a b := by
  simp only [Nat.compare_eq_ite_lt, Nat.add_lt_add_iff_left]

theorem compare_add_right (a b c : Nat) : compare (a + c) (b + c) = compare a b := by
  simp only [Nat.compare_eq_ite_lt, Nat.add_lt_add_iff_right]

theorem compare_mul_add {m a b c d : Nat} (hb : b < m) (hd : d < m) :
    compare (a * m + b) (c * m + d) = (compare a c).then (compare b d) := by
  rcases Nat.lt_trichotomy a c with h | rfl | h
  · rw [Nat.compare_eq_lt.2 h,
      Nat.compare_eq_lt.2 (Nat.lt_of_lt_of_le (mul_add_lt h hb) (Nat.le_add_right _ _))]
    rfl
  · rw [Nat.compare_eq_eq.2 rfl, compare_add_left]
    rfl
  · rw [Nat.compare_eq_gt.2 h,
      Nat.compare_eq_gt.2 (Nat.lt_of_lt_of_le (mul_add_lt h hd) (Nat.le_add_right _ _))]
    rfl

/-- differences modulo `m` taken without leaving the naturals, as `(b + m - a) % m` -/
theorem add_sub_mod_of_le {m a b : Nat} (h : a ≤ b) (hb : b < m) : (b + m - a) % m = b - a := by
  rw [Nat.add_comm, Nat.add_sub_assoc h, Nat.add_mod_left,
    Nat.mod_eq_of_lt (Nat.lt_of_le_of_lt (Nat.sub_le b a) hb)]

theorem add_sub_mod_of_lt {m a b : Nat} (h : b < a) (ha : a < m) :
    (b + m - a) % m = m - (a - b) := by
  obtain ⟨s, rfl⟩ := Nat.exists_eq_add_of_le (Nat.le_of_lt h)
  rw [Nat.add_sub_add_left, Nat.add_sub_cancel_left]
  exact Nat.mod_eq_of_lt (Nat.sub_lt (Nat.zero_lt_of_lt ha) (Nat.lt_add_right_iff_pos.1 h))

theorem add_mod_sub_mod {m a n : Nat} (ha : a < m) (hn : n < m) : ((a + n) % m + m - a) % m = n := by
  rcases Nat.lt_or_ge (a + n) m with h | h
  · rw [Nat.mod_eq_of_lt h, Nat.add_assoc, Nat.add_sub_cancel_left, Nat.add_mod_right,
      Nat.mod_eq_of_lt hn]
  · rw [Nat.mod_eq_sub_mod h, Nat.mod_eq_of_lt (Nat.sub_lt_left_of_lt_add h (Nat.add_lt_add ha hn)),
      Nat.sub_add_cancel h, Nat.add_sub_cancel_left, Nat.mod_eq_of_lt hn]

/-- `(s + m - j) % m`: the RTR serial `j` steps back from `s` -/
theorem serial_back_succ {m : Nat} (s j : Nat) (hs : s < m) (hj : j + 1 < m) :
    ((s + 1) % m + m - (j + 1)) % m = (s + m - j) % m := by
  rcases Nat.lt_or_eq_of_le (show s + 1 ≤ m from hs) with h | h
  · rw [Nat.mod_eq_of_lt h, Nat.add_right_comm, Nat.add_sub_add_right]
  · have hjs : j ≤ s := Nat.le_of_lt_succ (show j < s + 1 from h ▸ Nat.lt_of_succ_lt hj)
    have e : m - (j + 1) = s - j := by rw [← h, Nat.add_sub_add_right]
    rw [h, Nat.mod_self, Nat.zero_add, Nat.sub_add_comm hjs, Nat.add_mod_right, e]

theorem serial_back_ne {m : Nat} (x i : Nat) (hx : x < m) (hi0 : 0 < i) (hi : i < m) :
    (x + m - i) % m ≠ x := by
  rcases Nat.lt_or_ge x i with h | h
  · rw [add_sub_mod_of_lt h hi]
    have hle : i - x ≤ m := Nat.le_trans (Nat.sub_le i x) (Nat.le_of_lt hi)
    exact fun e => Nat.ne_of_gt hi (((Nat.sub_eq_iff_eq_add hle).1 e).trans (Nat.add_sub_cancel' (Nat.le_of_lt h)))
  · rw [add_sub_mod_of_le h hx]
    exact Nat.ne_of_lt (Nat.sub_lt (Nat.lt_of_lt_of_le hi0 h) hi0)

/-- `⌈(y+1)/k⌉ = ⌈y/k⌉ + [k ∣ y]` -/
theorem ceilDiv_succ (y k : Nat) (hk : 0 < k) :
    (y + 1 + (k - 1)) / k = (y + (k - 1)) / k + if y % k = 0 then 1 else 0 := by
  rw [Nat.add_right_comm y 1, Nat.succ_div, Nat.add_assoc y, Nat.sub_add_cancel hk]
  simp only [Nat.dvd_iff_mod_eq_zero, Nat.add_mod_right]

theorem mod_eq_zero_of_dvd {y a b : Nat} (h : a ∣ b) (e : y % b = 0) : y % a = 0 :=
  Nat.mod_eq_zero_of_dvd (Nat.dvd_trans h (Nat.dvd_of_mod_eq_zero e))

theorem add_le_of_dvd_lt {d a b : Nat} (ha : d ∣ a) (hb : d ∣ b) (h : a < b) : a + d ≤ b := by
  obtain ⟨x, rfl⟩ := ha
  obtain ⟨y, rfl⟩ := hb
  have hxy : x < y := Nat.lt_of_mul_lt_mul_left h
  calc d * x + d = d * (x + 1) := by rw [Nat.mul_succ]
    _ ≤ d * y := Nat.mul_le_mul_left d hxy

theorem succ_mod_eq_zero {x p : Nat} (hp : 0 < p) : (x + 1) % p = 0 ↔ x % p + 1 = p := by
  conv => lhs; rw [← Nat.div_add_mod x p, Nat.add_assoc, Nat.mul_add_mod]
  rcases (Nat.lt_or_eq_of_le (Nat.mod_lt x hp) : x % p + 1 < p ∨ x % p + 1 = p) with h | h
  · rw [Nat.mod_eq_of_lt h]
    exact ⟨nofun, fun e => absurd e (Nat.ne_of_lt h)⟩
  · rw [h, Nat.mod_self]
    exact ⟨fun _ => rfl, fun _ => rfl⟩

theorem lex_trichotomy {x y : Nat} {P R Q : Prop} (h : P ∨ R ∨ Q) :
    (x < y ∨ x = y ∧ P) ∨ (x = y ∧ R) ∨ (y < x ∨ y = x ∧ Q) := by
  rcases Nat.lt_trichotomy x y with l | rfl | l
  · exact .inl (.inl l)
  · exact h.imp (fun p => .inr ⟨rfl, p⟩) (.imp (fun r => ⟨rfl, r⟩) fun q => .inr ⟨rfl, q⟩)
  · exact .inr (.inr (.inl l))

theorem ite_le {p : Prop} [Decidable p] {a b c : Nat} (ha : a ≤ c) (hb : b ≤ c) :
    (if p then a else b) ≤ c := by
  split <;> assumption

theorem le_min_pred {x a b : Nat} (hb : 0 < b) : x ≤ min a (b - 1) ↔ x ≤ a ∧ x < b := by
  rw [Nat.le_min, Nat.le_sub_one_iff_lt hb]

theorem min_add_min (p a m : Nat) : min (min p m + a) m = min (p + a) m := by
  rcases Nat.le_total p m with h | h
  · rw [Nat.min_eq_left h]
  · rw [Nat.min_eq_right h, Nat.min_eq_right (Nat.le_add_right _ _),
      Nat.min_eq_right (Nat.le_trans h (Nat.le_add_right _ _))]

/-- two steps of a sum that saturates at `K` (`asn_count`) -/
theorem sat_step (K a s t : Nat) : min K (min K (a + min K s) + t) = min K (a + (s + t)) := by
  rw [Nat.min_comm K s, Nat.add_comm a, Nat.min_comm K (min s K + a), min_add_min, Nat.min_comm K, min_add_min,
    Nat.min_comm (s + a + t) K, Nat.add_comm s a, Nat.add_assoc]

end Rpki.Arith
