/-
  The reference reader of `Rpki.Model.XmlDoc` inverts the writer, up to the empty text lines, which it
  drops: `parseDoc (writeDoc n) = some (strip n)`, and `strip n = n` for a well-formed tree.
-/
import Rpki.Model.XmlDoc
import Rpki.Proofs.XmlLemmas
import Rpki.Proofs.ListLemmas
namespace Rpki.XmlDoc
open Rpki.Xml

/- what the reference reader can give back: a name ends at the first octet that is not a name character, a value at the
first `"` (and `<` in it is refused), a text run at the next `<` and is trimmed at both ends -/
def NameOk (n : Bytes) : Prop := n ≠ [] ∧ ∀ c ∈ n, isNameChar c = true
def ValueOk (v : Bytes) : Prop := 34 ∉ v ∧ 60 ∉ v
def TextOk (t : Bytes) : Prop :=
  t ≠ [] ∧ 60 ∉ t ∧ (∀ c, t.head? = some c → isWs c = false) ∧ (∀ c, t.getLast? = some c → isWs c = false)

instance (n : Bytes) : Decidable (NameOk n) := inferInstanceAs (Decidable (_ ∧ _))

theorem isNameChar_lt (c : Nat) (h : isNameChar c = true) : c < 128 := by
  unfold isNameChar at h
  simp only [Bool.or_eq_true, Bool.and_eq_true, decide_eq_true_eq] at h
  omega

theorem isWs_of_lt {c : Nat} (h : 32 < c) : isWs c = false := by
  simp only [isWs, Bool.or_eq_false_iff, decide_eq_false_iff_not]
  omega

theorem TextOk.of_forall_mem {t : Bytes} (hne : t ≠ []) (h60 : 60 ∉ t) (hws : ∀ c ∈ t, isWs c = false) : TextOk t :=
  ⟨hne, h60, fun c hc => hws c (List.mem_of_head? hc), fun c hc => hws c (List.mem_of_getLast? hc)⟩

def Nodes.startsText : Nodes → Prop
  | .cons (.text _) _ => True
  | _ => False

mutual
def Node.WF : Node → Prop
  | .text t => TextOk t
  | .elem name attrs body =>
    NameOk name ∧ (∀ a ∈ attrs, NameOk a.1 ∧ ValueOk a.2) ∧
      (match body with | none => True | some kids => kids.WF)
/-- in addition to the well-formedness of every child: no two text lines in a row (the reader
joins them into one text run) -/
def Nodes.WF : Nodes → Prop
  | .nil => True
  | .cons n ns => n.WF ∧ ns.WF ∧ (match n with | .text _ => ¬ ns.startsText | .elem .. => True)
end

theorem Node.WF_elem (name : Bytes) (attrs : List (Bytes × Bytes)) (body : Option Nodes) :
    (Node.elem name attrs body).WF ↔
      (NameOk name ∧ (∀ a ∈ attrs, NameOk a.1 ∧ ValueOk a.2) ∧
        (match body with | none => True | some kids => kids.WF)) := by
  cases body <;> simp only [Node.WF]

theorem Node.WF_text (t : Bytes) : (Node.text t).WF ↔ TextOk t := by
  rw [Node.WF]

theorem Nodes.WF_cons (n : Node) (ns : Nodes) :
    (Nodes.cons n ns).WF ↔
      (n.WF ∧ ns.WF ∧ (match n with | .text _ => ¬ ns.startsText | .elem .. => True)) := by
  cases n <;> simp only [Nodes.WF]

/-! ### empty text lines

The writer emits an empty text line for an empty text; the reader drops it.  `WF0` is `WF` with
empty text lines allowed, `strip` removes them. -/

mutual
def Node.WF0 : Node → Prop
  | .text t => t = [] ∨ TextOk t
  | .elem name attrs body =>
    NameOk name ∧ (∀ a ∈ attrs, NameOk a.1 ∧ ValueOk a.2) ∧
      (match body with | none => True | some kids => kids.WF0)
def Nodes.WF0 : Nodes → Prop
  | .nil => True
  | .cons n ns => n.WF0 ∧ ns.WF0 ∧ (match n with | .text _ => ¬ ns.startsText | .elem .. => True)
end

mutual
def strip : Node → Node
  | .text t => .text t
  | .elem name attrs none => .elem name attrs none
  | .elem name attrs (some kids) => .elem name attrs (some (stripKids kids))
def stripKids : Nodes → Nodes
  | .nil => .nil
  | .cons n ns =>
    match n with
    | .text t => if t = [] then stripKids ns else .cons (.text t) (stripKids ns)
    | .elem .. => .cons (strip n) (stripKids ns)
end

theorem Node.WF0_elem (name : Bytes) (attrs : List (Bytes × Bytes)) (body : Option Nodes) :
    (Node.elem name attrs body).WF0 ↔
      (NameOk name ∧ (∀ a ∈ attrs, NameOk a.1 ∧ ValueOk a.2) ∧
        (match body with | none => True | some kids => kids.WF0)) := by
  cases body <;> simp only [Node.WF0]

theorem Node.WF0_text (t : Bytes) : (Node.text t).WF0 ↔ (t = [] ∨ TextOk t) := by
  rw [Node.WF0]

theorem Nodes.WF0_cons (n : Node) (ns : Nodes) :
    (Nodes.cons n ns).WF0 ↔
      (n.WF0 ∧ ns.WF0 ∧ (match n with | .text _ => ¬ ns.startsText | .elem .. => True)) := by
  cases n <;> simp only [Nodes.WF0]

theorem strip_elem_none (name : Bytes) (attrs : List (Bytes × Bytes)) :
    strip (.elem name attrs none) = .elem name attrs none := by rw [strip]
theorem strip_elem_some (name : Bytes) (attrs : List (Bytes × Bytes)) (kids : Nodes) :
    strip (.elem name attrs (some kids)) = .elem name attrs (some (stripKids kids)) := by rw [strip]
theorem stripKids_nil : stripKids .nil = .nil := by rw [stripKids]
theorem stripKids_text_nil (ns : Nodes) : stripKids (.cons (.text []) ns) = stripKids ns := by
  rw [stripKids]; simp
theorem stripKids_text (t : Bytes) (ns : Nodes) (h : t ≠ []) :
    stripKids (.cons (.text t) ns) = .cons (.text t) (stripKids ns) := by
  rw [stripKids]; simp [h]
theorem stripKids_elem (name : Bytes) (attrs : List (Bytes × Bytes)) (body : Option Nodes) (ns : Nodes) :
    stripKids (.cons (.elem name attrs body) ns) = .cons (strip (.elem name attrs body)) (stripKids ns) := by
  rw [stripKids]

theorem strip_elem (name : Bytes) (attrs : List (Bytes × Bytes)) (body : Option Nodes) :
    strip (.elem name attrs body) = .elem name attrs (body.map stripKids) := by
  cases body with
  | none => exact strip_elem_none name attrs
  | some k => exact strip_elem_some name attrs k

theorem stripKids_length : ∀ ks : Nodes, (stripKids ks).toList.length ≤ ks.toList.length
  | .nil => by rw [stripKids_nil]; exact Nat.le_refl _
  | .cons (.text t) ns => by
    by_cases h : t = []
    · rw [h, stripKids_text_nil, Nodes.toList, List.length_cons]; exact Nat.le_succ_of_le (stripKids_length ns)
    · rw [stripKids_text t ns h, Nodes.toList, Nodes.toList, List.length_cons, List.length_cons]
      exact Nat.succ_le_succ (stripKids_length ns)
  | .cons (.elem n a b) ns => by
    rw [stripKids_elem, Nodes.toList, Nodes.toList, List.length_cons, List.length_cons]
    exact Nat.succ_le_succ (stripKids_length ns)

/- `WF` is `WF0` with nothing to strip.  (Stated for elements: a lone empty text line is its own `strip`.) -/
mutual
theorem elem_WF_iff (n : Bytes) (a : List (Bytes × Bytes)) : ∀ b : Option Nodes,
    (Node.elem n a b).WF ↔ (Node.elem n a b).WF0 ∧ strip (.elem n a b) = .elem n a b
  | none => by rw [Node.WF_elem, Node.WF0_elem, strip_elem_none]; exact (and_iff_left rfl).symm
  | some ks => by
    rw [Node.WF_elem, Node.WF0_elem, strip_elem_some]
    simp only [Nodes.WF_iff ks, Node.elem.injEq, Option.some.injEq, true_and, and_assoc]
theorem Nodes.WF_iff : ∀ ks : Nodes, ks.WF ↔ ks.WF0 ∧ stripKids ks = ks
  | .nil => by rw [Nodes.WF, Nodes.WF0, stripKids_nil]; exact (and_iff_left rfl).symm
  | .cons (.text t) ns => by
    rw [Nodes.WF_cons, Nodes.WF0_cons, Node.WF_text, Node.WF0_text, Nodes.WF_iff ns]
    constructor
    · rintro ⟨ht, ⟨h0, hs⟩, hn⟩
      exact ⟨⟨.inr ht, h0, hn⟩, by rw [stripKids_text t ns ht.1, hs]⟩
    · rintro ⟨⟨ht, h0, hn⟩, hs⟩
      -- dropping an empty line would leave a shorter list
      have hne : t ≠ [] := fun e => by
        have := stripKids_length ns
        rw [e, stripKids_text_nil] at hs
        rw [hs, Nodes.toList, List.length_cons] at this
        exact Nat.not_succ_le_self _ this
      rw [stripKids_text t ns hne] at hs
      exact ⟨ht.resolve_left hne, ⟨h0, (Nodes.cons.inj hs).2⟩, hn⟩
  | .cons (.elem n a b) ns => by
    rw [Nodes.WF_cons, Nodes.WF0_cons, elem_WF_iff n a b, Nodes.WF_iff ns, stripKids_elem]
    simp only [Nodes.cons.injEq, and_true]
    constructor
    · rintro ⟨⟨h1, h2⟩, ⟨h3, h4⟩⟩; exact ⟨⟨h1, h3⟩, h2, h4⟩
    · rintro ⟨⟨h1, h3⟩, h2, h4⟩; exact ⟨⟨h1, h2⟩, ⟨h3, h4⟩⟩
end

theorem Nodes.WF.toWF0 : ∀ ks : Nodes, ks.WF → ks.WF0 := fun ks h => ((Nodes.WF_iff ks).1 h).1

theorem stripKids_of_WF : ∀ ks : Nodes, ks.WF → stripKids ks = ks := fun ks h => ((Nodes.WF_iff ks).1 h).2


/- the tokens of a tree: what the lexer makes of the written tree, and what the builder puts together again -/
mutual
def toks : Node → List Tok
  | .text t => [.text t]
  | .elem name attrs none => [.selfClose name attrs]
  | .elem name attrs (some kids) => .open name attrs :: (toksKids kids ++ [.close name])
def toksKids : Nodes → List Tok
  | .nil => []
  | .cons n ns => toks n ++ toksKids ns
end

theorem writeNode_elem_none (level : Nat) (name : Bytes) (attrs : List (Bytes × Bytes)) :
    writeNode level (.elem name attrs none) = headOf name attrs ++ [47, 62] := by
  rw [writeNode]

theorem writeNode_elem_some (level : Nat) (name : Bytes) (attrs : List (Bytes × Bytes)) (kids : Nodes) :
    writeNode level (.elem name attrs (some kids)) =
      headOf name attrs ++ [62] ++ writeKids (level + 1) kids ++ [10] ++ indentOf level ++ [60, 47] ++ name ++ [62] := by
  rw [writeNode]

theorem writeNode_text (level : Nat) (t : Bytes) : writeNode level (.text t) = t := by
  rw [writeNode]

theorem writeKids_nil (level : Nat) : writeKids level .nil = [] := by rw [writeKids]

theorem writeKids_cons (level : Nat) (n : Node) (ns : Nodes) :
    writeKids level (.cons n ns) = [10] ++ indentOf level ++ writeNode level n ++ writeKids level ns := by
  rw [writeKids]

theorem toks_text (t : Bytes) : toks (.text t) = [.text t] := by rw [toks]
theorem toks_elem_none (name : Bytes) (attrs : List (Bytes × Bytes)) :
    toks (.elem name attrs none) = [.selfClose name attrs] := by rw [toks]
theorem toks_elem_some (name : Bytes) (attrs : List (Bytes × Bytes)) (kids : Nodes) :
    toks (.elem name attrs (some kids)) = .open name attrs :: (toksKids kids ++ [.close name]) := by rw [toks]
theorem toksKids_nil : toksKids .nil = [] := by rw [toksKids]
theorem toksKids_cons (n : Node) (ns : Nodes) : toksKids (.cons n ns) = toks n ++ toksKids ns := by rw [toksKids]


theorem readAttrs_length : ∀ (fuel : Nat) (b : Bytes) (acc : List (Bytes × Bytes)) attrs sc r,
    readAttrs fuel b acc = some (attrs, sc, r) → r.length ≤ b.length := by
  intro fuel b acc
  fun_induction readAttrs fuel b acc with
  | case2 | case3 =>
    intro _ _ _ h
    cases h
    simp only [List.length_cons]
    omega
  | case6 fuel rest acc name _ r1 h1 value _ r2 h2 ih =>
    intro attrs sc r h
    have e1 := congrArg List.length h1
    have e2 := congrArg List.length h2
    have := ih _ _ _ h
    simp only [List.length_drop, List.length_cons] at e1 e2 ⊢
    omega
  | _ => nofun

/-- with more fuel than octets, the amount of fuel does not matter.  (The patterns of `lex` overlap: its equation
lemmas `lex.eq_4`, `lex.eq_5` ask for proofs that the earlier patterns do not match.) -/
theorem lex_fuel : ∀ (f1 f2 : Nat) (b : Bytes) (acc : List Tok),
    b.length < f1 → b.length < f2 → lex f1 b acc = lex f2 b acc := by
  intro f1
  induction f1 with
  | zero => intro f2 b acc h; omega
  | succ f1 ih =>
    intro f2 b acc h1 h2
    cases f2 with
    | zero => omega
    | succ f2 =>
      cases b with
      | nil => rw [lex.eq_2, lex.eq_2]
      | cons c rest =>
        have step : ∀ r acc', r.length < (c :: rest).length → lex f1 r acc' = lex f2 r acc' := fun r acc' hr =>
          ih f2 r acc' (Nat.lt_of_lt_of_le hr (Nat.le_of_lt_succ h1)) (Nat.lt_of_lt_of_le hr (Nat.le_of_lt_succ h2))
        by_cases hc : c = 60
        · subst hc
          have open_case : (∀ r1, rest = 47 :: r1 → False) →
              lex (f1 + 1) (60 :: rest) acc = lex (f2 + 1) (60 :: rest) acc := by
            intro hne
            rw [lex.eq_4 _ _ _ hne, lex.eq_4 _ _ _ hne]
            by_cases hn : List.takeWhile isNameChar rest = []
            · rw [if_pos hn, if_pos hn]
            · rw [if_neg hn, if_neg hn]
              cases readAttrs (rest.length + 1) (List.drop (List.takeWhile isNameChar rest).length rest) [] with
              | none => rfl
              | some p =>
                obtain ⟨attrs, sc, r⟩ := p
                simp only []
                by_cases hlt : r.length < rest.length
                · rw [if_pos hlt, if_pos hlt]
                  exact step _ _ (Nat.lt_succ_of_lt hlt)
                · rw [if_neg hlt, if_neg hlt]
          cases rest with
          | nil => exact open_case (by intro r1 h; cases h)
          | cons d r2 =>
            by_cases hd : d = 47
            · subst hd
              rw [lex.eq_3, lex.eq_3]
              split
              · rfl
              · split
                · rename_i r hr
                  have e := congrArg List.length hr
                  simp only [List.length_drop, List.length_cons] at e
                  exact step _ _ (by simp only [List.length_cons]; omega)
                · rfl
            · exact open_case (by intro r1 h; injection h with h _; exact hd h)
        · rw [lex.eq_5 _ _ _ _ (fun _ h _ => hc h) hc, lex.eq_5 _ _ _ _ (fun _ h _ => hc h) hc]
          apply step
          rw [List.takeWhile_cons_of_pos (p := fun x => decide (x ≠ 60)) (decide_eq_true hc), List.length_cons,
            List.drop_succ_cons, List.length_drop]
          exact Nat.lt_succ_of_le (Nat.sub_le _ _)

/-- `lex` with the fuel `parseDoc` gives it -/
def lexF (b : Bytes) (acc : List Tok) : Option (List Tok) := lex (b.length + 1) b acc

theorem lex_eq_lexF (f : Nat) (b : Bytes) (acc : List Tok) (h : b.length < f) : lex f b acc = lexF b acc :=
  lex_fuel _ _ _ _ h (Nat.lt_succ_self _)

theorem lexF_nil (acc : List Tok) : lexF [] acc = some acc.reverse := by
  unfold lexF; rw [lex.eq_2]

theorem lexF_close (name r : Bytes) (acc : List Tok) (hn : NameOk name) :
    lexF (60 :: 47 :: (name ++ 62 :: r)) acc = lexF r (.close name :: acc) := by
  rw [lexF, lex.eq_3, Lists.takeWhile_append_stop name 62 r hn.2 (by decide), if_neg hn.1, List.drop_left]
  exact lex_eq_lexF _ _ _ (by simp only [List.length_cons, List.length_append]; omega)

/-- the token produced by a pending text line (`[]`: none) -/
def pend (t : Bytes) : List Tok := if t = [] then [] else [Tok.text t]

theorem pend_append (t : Bytes) (acc : List Tok) :
    pend t ++ acc = if t = [] then acc else .text t :: acc := by
  unfold pend
  split <;> rfl

theorem lexF_run (run r : Bytes) (acc : List Tok) (h60 : 60 ∉ run) :
    lexF (run ++ 60 :: r) acc = lexF (60 :: r) (pend (trim run) ++ acc) := by
  rw [pend_append]
  cases run with
  | nil => rfl
  | cons c rs =>
    have hc : c ≠ 60 := fun h => h60 (h ▸ List.mem_cons_self)
    rw [lexF, List.cons_append, lex.eq_5 _ _ _ _ (fun _ h _ => hc h) hc, ← List.cons_append,
      Lists.takeWhile_append_stop (p := fun x => decide (x ≠ 60)) (c :: rs) 60 r
        (fun x hx => decide_eq_true fun h => h60 (h ▸ hx)) rfl,
      List.drop_left]
    exact lex_eq_lexF _ _ _ (by simp only [List.length_cons, List.length_append]; omega)

def renderAttrs (attrs : List (Bytes × Bytes)) : Bytes := (attrs.map fun (n, v) => rawAttr n v).flatten

theorem renderAttrs_cons (n v : Bytes) (rest : List (Bytes × Bytes)) (tail : Bytes) :
    renderAttrs ((n, v) :: rest) ++ tail = 32 :: (n ++ 61 :: 34 :: (v ++ 34 :: (renderAttrs rest ++ tail))) := by
  simp [renderAttrs, rawAttr]

theorem headOf_eq (name : Bytes) (attrs : List (Bytes × Bytes)) (tail : Bytes) :
    headOf name attrs ++ tail = 60 :: (name ++ (renderAttrs attrs ++ tail)) := by
  simp [headOf, renderAttrs]

theorem readAttrs_attr (fuel : Nat) (n v rest : Bytes) (acc : List (Bytes × Bytes)) (hn : NameOk n)
    (hv : ValueOk v) :
    readAttrs (fuel + 1) (32 :: (n ++ 61 :: 34 :: (v ++ 34 :: rest))) acc = readAttrs fuel rest ((n, v) :: acc) := by
  rw [readAttrs.eq_4, Lists.takeWhile_append_stop n 61 _ hn.2 (by decide), if_neg hn.1, List.drop_left]
  simp only
  rw [Lists.takeWhile_append_stop (p := fun c => decide (c ≠ 34)) v 34 _
      (fun x hx => decide_eq_true fun h => hv.1 (h ▸ hx)) rfl, List.drop_left,
    if_neg fun h => hv.2 (List.contains_iff_mem.mp h)]
  rfl

theorem readAttrs_render (sc : Bool) (r tail : Bytes)
    (htail : ∀ fuel acc, readAttrs (fuel + 1) tail acc = some (acc.reverse, sc, r)) :
    ∀ (attrs : List (Bytes × Bytes)) (fuel : Nat) (acc : List (Bytes × Bytes)),
      (∀ a ∈ attrs, NameOk a.1 ∧ ValueOk a.2) → (renderAttrs attrs ++ tail).length < fuel →
      readAttrs fuel (renderAttrs attrs ++ tail) acc = some (acc.reverse ++ attrs, sc, r) := by
  intro attrs
  induction attrs with
  | nil =>
    intro fuel acc _ hf
    cases fuel with
    | zero => cases hf
    | succ f =>
      rw [List.append_nil]
      exact htail f acc
  | cons a rest ih =>
    intro fuel acc hok hf
    obtain ⟨n, v⟩ := a
    obtain ⟨hn, hv⟩ := hok (n, v) List.mem_cons_self
    rw [renderAttrs_cons] at hf ⊢
    cases fuel with
    | zero => cases hf
    | succ f =>
      rw [readAttrs_attr f n v _ acc hn hv, ih f _ (fun b hb => hok b (List.mem_cons_of_mem _ hb))
        (by simp only [List.length_cons, List.length_append] at hf ⊢; omega), List.reverse_cons, List.append_assoc]
      rfl

theorem renderAttrs_append_head (attrs : List (Bytes × Bytes)) {tail : Bytes}
    (h : ∀ c, tail.head? = some c → isNameChar c = false) :
    ∀ c, (renderAttrs attrs ++ tail).head? = some c → isNameChar c = false := by
  cases attrs with
  | nil => exact h
  | cons a rest =>
    rw [renderAttrs_cons]
    intro c e
    cases e
    decide

theorem lexF_tag (sc : Bool) (name : Bytes) (attrs : List (Bytes × Bytes)) (r tail : Bytes) (acc : List Tok)
    (hn : NameOk name) (ha : ∀ a ∈ attrs, NameOk a.1 ∧ ValueOk a.2)
    (htail : ∀ fuel acc, readAttrs (fuel + 1) tail acc = some (acc.reverse, sc, r))
    (hhead : ∀ c, tail.head? = some c → isNameChar c = false) (hlen : r.length < tail.length) :
    lexF (headOf name attrs ++ tail) acc =
      lexF r ((if sc = true then Tok.selfClose name attrs else Tok.open name attrs) :: acc) := by
  have hne : ∀ r1, name ++ (renderAttrs attrs ++ tail) = 47 :: r1 → False := by
    intro r1 h
    cases name with
    | nil => exact hn.1 rfl
    | cons n0 ns =>
      have := hn.2 n0 List.mem_cons_self
      cases h
      exact absurd this (by decide)
  rw [lexF, headOf_eq, lex.eq_4 _ _ _ hne,
    Lists.takeWhile_append_of_head hn.2 (renderAttrs_append_head attrs hhead), if_neg hn.1, List.drop_left,
    readAttrs_render sc r tail htail attrs _ [] ha (by simp only [List.length_append]; omega)]
  simp only [List.reverse_nil, List.nil_append]
  rw [if_pos (by simp only [List.length_append]; omega)]
  exact lex_eq_lexF _ _ _ (by simp only [List.length_cons, List.length_append]; omega)

theorem lexF_open (name : Bytes) (attrs : List (Bytes × Bytes)) (r : Bytes) (acc : List Tok)
    (hn : NameOk name) (ha : ∀ a ∈ attrs, NameOk a.1 ∧ ValueOk a.2) :
    lexF (headOf name attrs ++ 62 :: r) acc = lexF r (.open name attrs :: acc) :=
  lexF_tag false name attrs r (62 :: r) acc hn ha (fun fuel acc => by rw [readAttrs.eq_2])
    (fun _ e => by cases e; decide) (Nat.lt_succ_self _)

theorem lexF_selfClose (name : Bytes) (attrs : List (Bytes × Bytes)) (r : Bytes) (acc : List Tok)
    (hn : NameOk name) (ha : ∀ a ∈ attrs, NameOk a.1 ∧ ValueOk a.2) :
    lexF (headOf name attrs ++ 47 :: 62 :: r) acc = lexF r (.selfClose name attrs :: acc) :=
  lexF_tag true name attrs r (47 :: 62 :: r) acc hn ha (fun fuel acc => by rw [readAttrs.eq_3])
    (fun _ e => by cases e; decide) (Nat.lt_succ_of_lt (Nat.lt_succ_self _))


def AllWs (w : Bytes) : Prop := ∀ c ∈ w, isWs c = true

theorem allWs_nil : AllWs [] := by intro c h; cases h

theorem allWs_append {a b : Bytes} (ha : AllWs a) (hb : AllWs b) : AllWs (a ++ b) := by
  intro c h
  rcases List.mem_append.mp h with h | h
  · exact ha c h
  · exact hb c h

theorem allWs_indent (level : Nat) : AllWs (indentOf level) := by
  intro c h
  obtain ⟨l, hl, hc⟩ := List.mem_flatten.mp h
  rw [(List.mem_replicate.mp hl).2] at hc
  exact (by decide : ∀ c ∈ [32, 32], isWs c = true) c hc

theorem allWs_nl_indent (level : Nat) : AllWs (10 :: indentOf level) := by
  intro c h
  rcases List.mem_cons.mp h with rfl | h
  · decide
  · exact allWs_indent level c h

theorem allWs_not60 {w : Bytes} (h : AllWs w) : 60 ∉ w :=
  fun hm => absurd (h 60 hm) (by decide)

theorem trim_pad (ws0 t ws1 : Bytes) (h0 : AllWs ws0) (h1 : AllWs ws1) (ht : t = [] ∨ TextOk t) :
    trim (ws0 ++ t ++ ws1) = t := by
  unfold trim trimLeft trimRight
  rw [List.append_assoc, List.dropWhile_append_of_pos h0]
  rcases ht with rfl | ⟨hne, _, hhead, hlast⟩
  · rw [List.nil_append, ← List.append_nil ws1, List.dropWhile_append_of_pos h1]
    rfl
  · have hhead : ∀ c, (t ++ ws1).head? = some c → isWs c = false := by
      cases t with
      | nil => exact absurd rfl hne
      | cons => exact hhead
    rw [Lists.dropWhile_of_head hhead, List.reverse_append,
      List.dropWhile_append_of_pos (fun x hx => h1 x (List.mem_reverse.mp hx)),
      Lists.dropWhile_of_head (by rwa [List.head?_reverse]), List.reverse_reverse]

theorem lexF_pad (ws0 t ws1 r : Bytes) (acc : List Tok) (h0 : AllWs ws0) (h1 : AllWs ws1)
    (ht : t = [] ∨ TextOk t) :
    lexF (ws0 ++ t ++ ws1 ++ 60 :: r) acc = lexF (60 :: r) (pend t ++ acc) := by
  have h60 : 60 ∉ ws0 ++ t ++ ws1 := by
    intro hm
    rw [List.mem_append, List.mem_append] at hm
    rcases hm with (hm | hm) | hm
    · exact allWs_not60 h0 hm
    · rcases ht with rfl | ht
      · cases hm
      · exact ht.2.1 hm
    · exact allWs_not60 h1 hm
  rw [lexF_run _ _ _ h60, trim_pad ws0 t ws1 h0 h1 ht]

theorem headOf_cons (name : Bytes) (attrs : List (Bytes × Bytes)) :
    ∃ h, headOf name attrs = 60 :: h := ⟨_, rfl⟩

theorem writeNode_elem_head (level : Nat) (name : Bytes) (attrs : List (Bytes × Bytes)) (body : Option Nodes) :
    ∃ h, writeNode level (.elem name attrs body) = 60 :: h := by
  cases body with
  | none =>
    rw [writeNode_elem_none, headOf_eq]
    exact ⟨_, rfl⟩
  | some kids =>
    rw [writeNode_elem_some, headOf_eq]
    simp only [List.cons_append]
    exact ⟨_, rfl⟩

/- The reader takes everything up to the next `<` as one run, so a text line is complete only when that
`<` is reached: the children are lexed with a pending text line `t` (`[]`: none), `ws0` and `ws1` being
the white space written before it and before the `<`. -/
mutual
theorem lexF_elem0 (name : Bytes) (attrs : List (Bytes × Bytes)) : ∀ (body : Option Nodes) (level : Nat)
    (r : Bytes) (acc : List Tok), (Node.elem name attrs body).WF0 →
    lexF (writeNode level (.elem name attrs body) ++ r) acc =
      lexF r ((toks (strip (.elem name attrs body))).reverse ++ acc) := fun body level r acc hwf =>
  match body, hwf with
  | none, hwf => by
    rw [Node.WF0_elem] at hwf
    rw [writeNode_elem_none, strip_elem_none, toks_elem_none, List.append_assoc]
    exact lexF_selfClose name attrs r acc hwf.1 hwf.2.1
  | some kids, hwf => by
    rw [Node.WF0_elem] at hwf
    obtain ⟨hn, ha, hk⟩ := hwf
    simp only at hk
    have h2 := lexF_kids0 kids (level + 1) [] [] (10 :: indentOf level) (47 :: (name ++ 62 :: r))
      (.open name attrs :: acc) hk allWs_nil (allWs_nl_indent level) (Or.inl rfl)
    simp only [List.append_assoc, List.cons_append, List.nil_append] at h2
    rw [writeNode_elem_some]
    simp only [List.append_assoc, List.cons_append, List.nil_append]
    rw [lexF_open name attrs _ _ hn ha, h2, lexF_close name r _ hn, strip_elem_some, toks_elem_some]
    simp [pend]
theorem lexF_kids0 : ∀ (ks : Nodes) (level : Nat) (ws0 t ws1 r : Bytes) (acc : List Tok), ks.WF0 →
    AllWs ws0 → AllWs ws1 → (t = [] ∨ (TextOk t ∧ ¬ ks.startsText)) →
    lexF (ws0 ++ t ++ writeKids level ks ++ ws1 ++ 60 :: r) acc =
      lexF (60 :: r) ((toksKids (stripKids ks)).reverse ++ pend t ++ acc) :=
  fun ks level ws0 t ws1 r acc hwf h0 h1 ht =>
  match ks, hwf, ht with
  | .nil, _, ht => by
    rw [writeKids_nil, List.append_nil, stripKids_nil, toksKids_nil]
    exact lexF_pad ws0 t ws1 r acc h0 h1 (ht.imp id (·.1))
  | .cons (.text t') ns, hwf, ht => by
    rw [Nodes.WF0_cons, Node.WF0_text] at hwf
    obtain ⟨ht', hns, hst⟩ := hwf
    simp only at hst
    have ht0 : t = [] := by
      rcases ht with h | h
      · exact h
      · exact absurd trivial h.2
    subst ht0
    have h2 := lexF_kids0 ns level (ws0 ++ 10 :: indentOf level) t' ws1 r acc hns
      (allWs_append h0 (allWs_nl_indent level)) h1
    rw [writeKids_cons, writeNode_text]
    simp only [List.append_assoc, List.cons_append, List.nil_append, List.append_nil] at h2 ⊢
    rcases ht' with rfl | ht'
    · rw [h2 (Or.inl rfl), stripKids_text_nil]
    · rw [h2 (Or.inr ⟨ht', hst⟩), stripKids_text t' ns ht'.1, toksKids_cons, toks_text]
      simp [pend, ht'.1]
  | .cons (.elem name attrs body) ns, hwf, ht => by
    rw [Nodes.WF0_cons] at hwf
    obtain ⟨hn, hns, _⟩ := hwf
    obtain ⟨h, hh⟩ := writeNode_elem_head level name attrs body
    have e1 := lexF_pad ws0 t (10 :: indentOf level) (h ++ (writeKids level ns ++ ws1 ++ 60 :: r)) acc h0
      (allWs_nl_indent level) (ht.imp id (·.1))
    have e2 := lexF_elem0 name attrs body level (writeKids level ns ++ ws1 ++ 60 :: r) (pend t ++ acc) hn
    have e3 := lexF_kids0 ns level [] [] ws1 r ((toks (strip (.elem name attrs body))).reverse ++ (pend t ++ acc))
      hns allWs_nil h1 (Or.inl rfl)
    rw [hh] at e2
    rw [writeKids_cons, hh]
    simp only [List.append_assoc, List.cons_append, List.nil_append] at e1 e2 e3 ⊢
    rw [e1, e2, e3, stripKids_elem, toksKids_cons]
    simp [pend]
end

theorem lexF_elem (name : Bytes) (attrs : List (Bytes × Bytes)) : ∀ (body : Option Nodes) (level : Nat)
    (r : Bytes) (acc : List Tok), (Node.elem name attrs body).WF →
    lexF (writeNode level (.elem name attrs body) ++ r) acc =
      lexF r ((toks (.elem name attrs body)).reverse ++ acc) := by
  intro body level r acc hwf
  have h := (elem_WF_iff name attrs body).1 hwf
  rw [lexF_elem0 name attrs body level r acc h.1, h.2]

theorem lexF_kids : ∀ (ks : Nodes) (level : Nat) (ws0 t ws1 r : Bytes) (acc : List Tok), ks.WF →
    AllWs ws0 → AllWs ws1 → (t = [] ∨ (TextOk t ∧ ¬ ks.startsText)) →
    lexF (ws0 ++ t ++ writeKids level ks ++ ws1 ++ 60 :: r) acc =
      lexF (60 :: r) ((toksKids ks).reverse ++ pend t ++ acc) := by
  intro ks level ws0 t ws1 r acc hwf h0 h1 ht
  rw [lexF_kids0 ks level ws0 t ws1 r acc (Nodes.WF.toWF0 ks hwf) h0 h1 ht, stripKids_of_WF ks hwf]

theorem Nodes.ofList_toList : ∀ ks : Nodes, Nodes.ofList ks.toList = ks
  | .nil => by rw [Nodes.toList, Nodes.ofList]
  | .cons n ns => by rw [Nodes.toList, Nodes.ofList, Nodes.ofList_toList ns]

theorem Nodes.toList_ofList (l : List Node) : (Nodes.ofList l).toList = l := by
  induction l with
  | nil => rfl
  | cons n ns ih => rw [Nodes.ofList, Nodes.toList, ih]

theorem Nodes.ofList_inj (a b : List Node) (h : Nodes.ofList a = Nodes.ofList b) : a = b := by
  rw [← Nodes.toList_ofList a, h, Nodes.toList_ofList]

mutual
theorem build_node : ∀ (n : Node) (rest : List Tok) (nm : Bytes) (a : List (Bytes × Bytes))
    (kids : List Node) (st : List (Bytes × List (Bytes × Bytes) × List Node)),
    build (toks n ++ rest) ((nm, a, kids) :: st) = build rest ((nm, a, n :: kids) :: st) :=
  fun n rest nm a kids st =>
  match n with
  | .text t => by
    rw [toks_text]; simp only [List.cons_append, List.nil_append]; rw [build]
  | .elem name attrs none => by
    rw [toks_elem_none]; simp only [List.cons_append, List.nil_append]; rw [build]
  | .elem name attrs (some ks) => by
    rw [toks_elem_some]
    simp only [List.cons_append, List.append_assoc, List.nil_append]
    rw [build, build_kids ks (Tok.close name :: rest) name attrs [] ((nm, a, kids) :: st), build]
    simp [Nodes.ofList_toList]
theorem build_kids : ∀ (ks : Nodes) (rest : List Tok) (nm : Bytes) (a : List (Bytes × Bytes))
    (acc : List Node) (st : List (Bytes × List (Bytes × Bytes) × List Node)),
    build (toksKids ks ++ rest) ((nm, a, acc) :: st) = build rest ((nm, a, ks.toList.reverse ++ acc) :: st) :=
  fun ks rest nm a acc st =>
  match ks with
  | .nil => by
    rw [toksKids_nil, Nodes.toList]; rfl
  | .cons n ns => by
    rw [toksKids_cons, List.append_assoc, build_node n, build_kids ns, Nodes.toList]
    simp
end

theorem build_toks (name : Bytes) (attrs : List (Bytes × Bytes)) (body : Option Nodes) :
    build (toks (.elem name attrs body)) [] = some (.elem name attrs body) := by
  cases body with
  | none => rw [toks_elem_none, build]; simp
  | some ks =>
    rw [toks_elem_some, build, build_kids ks [Tok.close name] name attrs [] [], build]
    simp [Nodes.ofList_toList]

theorem parseDoc_of_lexF {b : Bytes} {ts : List Tok} (h : lexF b [] = some ts) : parseDoc b = build ts [] := by
  unfold parseDoc
  rw [← lexF, h]

theorem parse_write0 (n : Node) (h : n.WF0) (hroot : ∃ name attrs body, n = .elem name attrs body) :
    parseDoc (writeDoc n) = some (strip n) := by
  obtain ⟨name, attrs, body, rfl⟩ := hroot
  have hl := lexF_elem0 name attrs body 0 [] [] h
  rw [List.append_nil, lexF_nil, List.append_nil, List.reverse_reverse] at hl
  rw [strip_elem] at hl ⊢
  exact (parseDoc_of_lexF hl).trans (build_toks name attrs _)

theorem parse_write (n : Node) (h : n.WF) (hroot : ∃ name attrs body, n = .elem name attrs body) :
    parseDoc (writeDoc n) = some n := by
  obtain ⟨name, attrs, body, rfl⟩ := hroot
  have h := (elem_WF_iff name attrs body).1 h
  rw [parse_write0 _ h.1 ⟨_, _, _, rfl⟩, h.2]

theorem writeDoc_injective (a b : Node) (ha : a.WF) (hb : b.WF)
    (hra : ∃ name attrs body, a = .elem name attrs body) (hrb : ∃ name attrs body, b = .elem name attrs body)
    (h : writeDoc a = writeDoc b) : a = b :=
  inj_of_read (P := fun n => n.WF ∧ ∃ name attrs body, n = .elem name attrs body) (f := id)
    (fun n hn => parse_write n hn.1 hn.2) a b ⟨ha, hra⟩ ⟨hb, hrb⟩ h

def sample1 : Node :=
  .elem [97] [([120], [49])] (some (.cons (.elem [98] [] none) (.cons (.elem [99] [] none) .nil)))

def sample2 : Node :=
  .elem [97] [] (some (.cons
    (.elem [98] [([107], [118, 32, 38, 97, 109, 112, 59, 32, 119]), ([108], [])] (some (.cons
      (.elem [99] [] none) (.cons
      (.text [104, 101, 108, 108, 111, 32, 119, 111, 114, 108, 100]) (.cons
      (.elem [100] [] (some .nil)) .nil))))) .nil))

theorem sample1_wf : sample1.WF := by
  simp only [sample1, Node.WF, Nodes.WF, NameOk, ValueOk]
  decide

theorem sample2_wf : sample2.WF := by
  simp only [sample2, Node.WF, Nodes.WF, Nodes.startsText, NameOk, ValueOk, TextOk, List.head?_cons,
    List.getLast?_cons_cons, List.getLast?_singleton, Option.some.injEq, forall_eq', List.forall_mem_cons,
    List.not_mem_nil, false_imp_iff, implies_true]
  decide

example : parseDoc (writeDoc sample1) = some sample1 := by rfl
example : parseDoc (writeDoc sample2) = some sample2 := by rfl
example : parseDoc (writeDoc sample1) = some sample1 := parse_write _ sample1_wf ⟨_, _, _, rfl⟩
example : parseDoc (writeDoc sample2) = some sample2 := parse_write _ sample2_wf ⟨_, _, _, rfl⟩

/-- Why `Nodes.WF` excludes two text lines in a row: `<a>` with the text lines `x` and `y` is written
exactly like `<a>` with the single text `x\n  y` (which is itself a `TextOk` text), so the reader
returns the second tree for the first. -/
theorem adjacent_text_lines_are_joined :
    parseDoc (writeDoc (.elem [97] [] (some (.cons (.text [120]) (.cons (.text [121]) .nil))))) =
      some (.elem [97] [] (some (.cons (.text [120, 10, 32, 32, 121]) .nil))) ∧
    (Node.elem [97] [] (some (.cons (.text [120, 10, 32, 32, 121]) .nil))).WF ∧
    writeDoc (.elem [97] [] (some (.cons (.text [120]) (.cons (.text [121]) .nil)))) =
      writeDoc (.elem [97] [] (some (.cons (.text [120, 10, 32, 32, 121]) .nil))) := by
  refine ⟨by rfl, ?_, by rfl⟩
  simp only [Node.WF, Nodes.WF, Nodes.startsText, NameOk, ValueOk, TextOk, List.head?_cons, List.getLast?_cons_cons,
    List.getLast?_singleton, Option.some.injEq, forall_eq']
  decide

/-- Why the root has to be an element: a lone text line is not a document. -/
theorem text_root_is_rejected : (Node.text [120]).WF ∧ parseDoc (writeDoc (.text [120])) = none := by
  refine ⟨?_, by rfl⟩
  simp only [Node.WF, TextOk, List.head?_cons, List.getLast?_singleton, Option.some.injEq, forall_eq']
  decide

end Rpki.XmlDoc
