/-
  `CsrDer.decodeCsr false` reads back what `CsrEnc.encodeCsr` writes.
-/
import Rpki.Model.CsrEnc
import Rpki.Proofs.CertEncCert
import Rpki.Proofs.CmsEncLemmas
namespace Rpki.CsrEnc
open Rpki.Der Rpki.CertDer Rpki.CsrDer Rpki.CertEnc Rpki.Consts

theorem csrExtension_body (e : Exts) (oid : Bytes) (crit : Bool) (v : Bytes) (ho : oidOk oid = true) :
    csrExtension e (csrExtBody oid crit v) =
      (if oid = oidBasicConstraints then xBasicConstraints e true v
       else if oid = oidKeyUsage then xKeyUsage e true v
       else if oid = oidExtKeyUsage then xExtKeyUsage e false v
       else if oid = oidSubjectInfoAccess then xSubjectInfoAccess e false v
       else none) := by
  unfold csrExtension csrExtBody
  cases crit <;>
    simp (disch := decide) only [List.append_assoc, takeOid_tlv _ ho, takeOptBool_true, takeOptBool_false,
      takePrim_reads, Bool.false_eq_true, if_false, if_true, ne_eq, not_true_eq_false]

structure WF (subject : Bytes) (unused : Nat) (bits repo mft : Bytes) (notify : Option Bytes) : Prop where
  subject : NameOk subject
  key : Manifest.bitStringTake (unused :: bits) = some (unused, bits)
  sia : SiaOk (csrSia repo mft notify)

theorem csrExtItems_fold (repo mft : Bytes) (notify : Option Bytes) (h : SiaOk (csrSia repo mft notify)) :
    (csrExtItems repo mft notify).foldlM csrExtension {} =
      some { basicCa := some true, keyUsage := some .ca, sia := some (csrSia repo mft notify) } := by
  have h1 : ¬ oidKeyUsage = oidBasicConstraints := by decide
  have h2 : ¬ oidSubjectInfoAccess = oidBasicConstraints := by decide
  have h3 : ¬ oidSubjectInfoAccess = oidKeyUsage := by decide
  have h4 : ¬ oidSubjectInfoAccess = oidExtKeyUsage := by decide
  have hbc : xBasicConstraints {} true (tlv tagSeq (tlv tagBool [255])) = some { basicCa := some true } :=
    xBasicConstraints_enc {} true rfl
  have hku := xKeyUsage_enc { basicCa := some true } .ca rfl
  have hsia := xSubjectInfoAccess_enc { basicCa := some true, keyUsage := some .ca } (csrSia repo mft notify) h
    (Or.inl rfl) rfl
  unfold csrExtItems
  simp only [List.foldlM_cons, List.foldlM_nil, csrExtension_body _ _ _ _ (by decide : oidOk oidBasicConstraints = true),
    csrExtension_body _ _ _ _ (by decide : oidOk oidKeyUsage = true),
    csrExtension_body _ _ _ _ (by decide : oidOk oidSubjectInfoAccess = true), if_true, h1, h2, h3, h4, if_false, hbc,
    Option.bind_eq_bind, Option.bind_some, hku, hsia, pure]

theorem takeAttrs_enc (repo mft : Bytes) (notify : Option Bytes) (h : SiaOk (csrSia repo mft notify)) :
    takeAttrs (tlv 0xA0 (tlv tagSeq (tlv tagOid oidExtensionRequest ++
      tlv tagSet (tlv tagSeq (seqs (csrExtItems repo mft notify)))))) =
      some ({ basicCa := some true, keyUsage := some .ca, sia := some (csrSia repo mft notify) }, []) := by
  unfold takeAttrs
  simp (disch := decide) only [takeCons_reads, takeOid_tlv, foldCons_seqs, csrExtItems_fold repo mft notify h,
    ne_eq, not_true_eq_false, or_self, if_false]

def readBack (subject : Bytes) (alg : KeyAlg) (unused : Nat) (bits repo mft : Bytes) (notify : Option Bytes)
    (raw signature : Bytes) : CsrD :=
  { subject, keyAlg := alg, keyUnused := unused, keyBits := bits, basicCa := some true, keyUsage := some .ca,
    eku := none, ekuContent := [], sia := some (csrSia repo mft notify), tbs := raw, signature }

theorem decodeContent_enc (subject : Bytes) (alg : KeyAlg) (unused : Nat) (bits repo mft : Bytes) (notify : Option Bytes)
    (h : WF subject unused bits repo mft notify) (signature : Bytes) :
    decodeContent false (encodeContent subject alg unused bits repo mft notify) signature =
      some (readBack subject alg unused bits repo mft notify (encodeContent subject alg unused bits repo mft notify) signature) := by
  unfold decodeContent
  rw [encodeContent, (takeCons_reads tagSeq _).2, ← encodeContent]
  simp (disch := decide) only [List.append_assoc, CmsEnc.skipU8_enc, h.subject _, takePublicKey_enc _ _ _ h.key,
    takeAttrs_enc repo mft notify h.sia, ne_eq, not_true_eq_false, if_false, Bool.false_eq_true]
  rfl

theorem encodeContent_forest (subject : Bytes) (alg : KeyAlg) (unused : Nat) (bits repo mft : Bytes) (notify : Option Bytes)
    (hs : Forest subject) : Tbs (encodeContent subject alg unused bits repo mft notify) := by
  have hb : ∀ oid crit v, Forest (csrExtBody oid crit v) := fun oid crit v =>
    ((Forest.prim1 tagOid oid).append (Forest.prim1 tagBool _)).append (Forest.prim1 tagOctetString v)
  refine ⟨_, rfl, (((Forest.prim1 tagInt [0]).append hs).append (forest_publicKey _ _ _)).append
    (Forest.cons1 0xA0 (Forest.cons1 tagSeq ((Forest.prim1 tagOid _).append
      (Forest.cons1 tagSet (Forest.cons1 tagSeq (forest_seqs _ ?_))))))⟩
  intro x hx
  simp only [csrExtItems, List.mem_cons, List.mem_nil_iff, or_false] at hx
  rcases hx with rfl | rfl | rfl <;> exact hb _ _ _

/-- `RpkiCaCsr::decode` reads back what `Csr::construct_rpki_ca` writes. -/
theorem decodeCsr_encodeCsr (subject : Bytes) (alg : KeyAlg) (unused : Nat) (bits repo mft : Bytes) (notify : Option Bytes)
    (h : WF subject unused bits repo mft notify) (hs : Forest subject) (signature : Bytes) :
    Reads (decodeCsr false) (encodeCsr subject alg unused bits repo mft notify signature) fun _ =>
      some (readBack subject alg unused bits repo mft notify (encodeContent subject alg unused bits repo mft notify) signature) :=
  .of fun rest => by
  have ht := encodeContent_forest subject alg unused bits repo mft notify hs
  unfold decodeCsr encodeCsr
  simp (disch := decide) only [takeCons_reads, List.append_assoc, ht.append_ne_nil, ht.skipOne, Lists.take_length_sub,
    takeSigAlg_enc, takeBitString_sig, decodeContent_enc subject alg unused bits repo mft notify h, if_false, ne_eq,
    not_true_eq_false, Option.map_some, Bool.false_eq_true]

end Rpki.CsrEnc
