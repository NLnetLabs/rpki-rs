/-
  The RFC 3779 IP address blocks in DER.  Round trip: a range is written as two prefixes whose host bits are the
  trailing zeros of the lower and the trailing ones of the upper bound, which is what `to_min` / `to_max` undo.
  Soundness: the reader accepts only well-formed blocks inside the address space, which `from_iter` makes canonical;
  those of a family of width `W` are aligned to `2 ^ (128 - W)`.
-/
import Rpki.Proofs.ChainPrefix
import Rpki.Proofs.AsDerCodec  -- `toNatBE_*`; with it comes Mathlib, under which `2 ^ k` elaborates otherwise
namespace Rpki.IpDer
open Rpki.Der Rpki.Chain

theorem pow256 (n : Nat) : (256 : Nat) ^ n = 2 ^ (8 * n) := by
  have : (256 : Nat) = 2 ^ 8 := by decide
  rw [this, ← Nat.pow_mul]

theorem toNatBE_eq : toNatBE = AsDer.toNatBE := by
  funext c
  induction c with
  | nil => rfl
  | cons b bs ih => rw [toNatBE, AsDer.toNatBE, ih]

theorem toNatBE_lt (c : Bytes) (hc : AllBytes c) : toNatBE c < 256 ^ c.length :=
  toNatBE_eq ▸ AsDer.toNatBE_lt c hc

theorem addrOctets_length (a : Nat) : (addrOctets a).length = 16 := by
  simp [addrOctets]

theorem take_addrOctets (a k : Nat) (hk : k ≤ 16) :
    (addrOctets a).take k = (List.range k).map fun i => a / 256 ^ (15 - i) % 256 := by
  unfold addrOctets
  rw [← List.map_take, List.take_range, Nat.min_eq_left hk]

theorem toNatBE_take (a : Nat) (ha : a < 2 ^ 128) : ∀ k, k ≤ 16 →
    toNatBE ((addrOctets a).take k) = a / 256 ^ (16 - k) := by
  intro k
  induction k with
  | zero => exact fun _ => (Nat.div_eq_of_lt (pow256 16 ▸ ha)).symm
  | succ k ih =>
    intro hk
    have e : 16 - k = (15 - k) + 1 := Nat.succ_sub (Nat.le_of_succ_le_succ hk)
    have e' : 16 - (k + 1) = 15 - k := Nat.add_sub_add_right 15 1 k
    rw [e', take_addrOctets a (k + 1) hk, List.range_succ, List.map_append, List.map_singleton, toNatBE_eq,
      AsDer.toNatBE_concat, ← toNatBE_eq, ← take_addrOctets a k (Nat.le_of_succ_le hk),
      ih (Nat.le_of_succ_le hk), e, Nat.pow_succ, ← Nat.div_div_eq_div_mul]
    exact Nat.div_add_mod' _ 256

theorem getLast_take_addrOctets (a k : Nat) (hk : k + 1 ≤ 16) :
    ((addrOctets a).take (k + 1)).getLast? = some (a / 256 ^ (15 - k) % 256) := by
  rw [take_addrOctets a (k + 1) hk, List.range_succ, List.map_append, List.map_singleton,
    List.getLast?_concat]

theorem toMin_mod (x l : Nat) : toMin x l % 2 ^ (128 - l) = 0 := by
  unfold toMin; exact Nat.mul_mod_left _ _

theorem toMin_le (x l : Nat) : toMin x l ≤ x := by
  unfold toMin; exact Nat.div_mul_le_self _ _

theorem toMin_of_mod (x l : Nat) (h : x % 2 ^ (128 - l) = 0) : toMin x l = x := by
  unfold toMin; exact Nat.div_mul_cancel (Nat.dvd_of_mod_eq_zero h)

theorem toMin_idem (x l : Nat) : toMin (toMin x l) l = toMin x l := toMin_of_mod _ _ (toMin_mod x l)

theorem dvd_of_toMin (x l : Nat) (h : toMin x l = x) : 2 ^ (128 - l) ∣ x := by
  unfold toMin at h; exact Dvd.intro_left _ h

theorem toMax_of_mod (x l : Nat) (h : x % 2 ^ (128 - l) = 0) : toMax x l = x + 2 ^ (128 - l) - 1 := by
  unfold toMax
  rw [toMin_of_mod x l h, Nat.add_sub_assoc (Nat.two_pow_pos _)]

theorem bitStringTake_ok (u : Nat) (bits : Bytes) (last : Nat) (hu : u ≤ 7)
    (hl : bits.getLast? = some last) (hz : last % 2 ^ u = 0) :
    Manifest.bitStringTake (u :: bits) = some (u, bits) := by
  have hne : bits ≠ [] := by intro e; subst e; cases hl
  rw [Manifest.bitStringTake, if_neg (Nat.not_lt.2 hu), if_neg fun h => hne h.1]
  split
  · rw [hl]
    exact if_neg (not_not.2 hz)
  · rfl

theorem low_bits_zero {a j u : Nat} (hu : u ≤ 8) (h : 2 ^ (8 * j + u) ∣ a) :
    a / 256 ^ j % 256 % 2 ^ u = 0 := by
  obtain ⟨q, rfl⟩ := h
  rw [Nat.pow_add, ← pow256, Nat.mul_assoc, Nat.mul_div_cancel_left _ (Nat.pow_pos (by decide)),
    Nat.mod_mod_of_dvd _ (show 2 ^ u ∣ 256 from Nat.pow_dvd_pow 2 hu)]
  exact Nat.mul_mod_right _ _

theorem prefixOfContent_take {a len u k : Nat} (hk : k ≤ 16) (hu : u ≤ 7) (hlen : len + u = 8 * k)
    (ha : a < 2 ^ 128) (hmin : toMin a len = a) :
    prefixOfContent (u :: (addrOctets a).take k) = some (a, len) := by
  have h1 : 8 * k - u = len := Nat.sub_eq_of_eq_add hlen.symm
  have hdv : 2 ^ (8 * (16 - k) + u) ∣ a := by
    have h128 : u + len ≤ 128 := Nat.add_comm u len ▸ hlen ▸ Nat.mul_le_mul_left 8 hk
    have h2 : 8 * (16 - k) + u = 128 - len := by
      rw [Nat.mul_sub, ← hlen, Nat.sub_add_eq, Nat.sub_add_cancel (Nat.le_sub_of_add_le h128)]
    exact h2 ▸ dvd_of_toMin a len hmin
  have hv : toNatBE ((addrOctets a).take k) * 256 ^ (16 - k) = a := by
    rw [toNatBE_take a ha k hk]
    exact Nat.div_mul_cancel (pow256 _ ▸ Nat.dvd_trans (Nat.pow_dvd_pow 2 (Nat.le_add_right ..)) hdv)
  have hb : Manifest.bitStringTake (u :: (addrOctets a).take k) = some (u, (addrOctets a).take k) := by
    cases k with
    | zero =>
      obtain rfl : u = 0 := Nat.eq_zero_of_add_eq_zero_left hlen
      rfl
    | succ k =>
      have e : 15 - k = 16 - (k + 1) := (Nat.add_sub_add_right 15 1 k).symm
      exact bitStringTake_ok _ _ _ hu (getLast_take_addrOctets a k hk)
        (e ▸ low_bits_zero (Nat.le_succ_of_le hu) hdv)
  unfold prefixOfContent
  rw [hb]
  dsimp only
  rw [List.length_take, addrOctets_length, Nat.min_eq_left hk, if_neg (Nat.not_lt.2 hk), hv, h1, hmin]

theorem prefixOfContent_encode (a len : Nat) (hlen : len ≤ 128) (ha : a < 2 ^ 128) (hmin : toMin a len = a) :
    prefixOfContent (encodePrefixContent a len) = some (a, len) := by
  unfold encodePrefixContent
  split
  · rename_i h8
    exact prefixOfContent_take (Nat.div_le_of_le_mul hlen) (Nat.zero_le 7)
      (Nat.mul_div_cancel' (Nat.dvd_of_mod_eq_zero h8)).symm ha hmin
  · rename_i h8
    have hr : len % 8 ≤ 8 := Nat.le_of_lt (Nat.mod_lt len (by decide))
    refine prefixOfContent_take (Nat.div_lt_of_lt_mul (Nat.lt_of_le_of_ne hlen fun e => h8 (e ▸ rfl)))
      (Nat.sub_le_of_le_add (Nat.add_le_add_left (Nat.pos_of_ne_zero h8) 7)) ?_ ha hmin
    conv => lhs; lhs; rw [← Nat.div_add_mod len 8]
    rw [Nat.add_assoc, Nat.add_sub_cancel' hr, Nat.mul_succ]

theorem takeOptBlock_prefix (W a len : Nat) (c rest : Bytes) (hp : prefixOfContent c = some (a, len))
    (hl : len ≤ W) : takeOptBlock W (tlv tagBitString c ++ rest) = .ok ⟨a, toMax a len⟩ rest := by
  have hr := (readTlv_reads tagBitString c).1 rest
  rw [tlv_append] at hr ⊢
  simp +decide only [takeOptBlock, if_false, hr, if_true, Bool.false_eq_true, hp, Nat.not_lt.2 hl]

theorem takeOptBlock_range (W a1 l1 a2 l2 : Nat) (c1 c2 rest : Bytes)
    (hp1 : prefixOfContent c1 = some (a1, l1)) (hp2 : prefixOfContent c2 = some (a2, l2))
    (h1 : l1 ≤ W) (h2 : l2 ≤ W) (hle : a1 ≤ toMax a2 l2) :
    takeOptBlock W (tlv tagSeq (tlv tagBitString c1 ++ tlv tagBitString c2) ++ rest)
      = .ok ⟨a1, toMax a2 l2⟩ rest := by
  have hr := (readTlv_reads tagSeq (tlv tagBitString c1 ++ tlv tagBitString c2)).1 rest
  rw [tlv_append] at hr ⊢
  simp +decide only [takeOptBlock, if_false, hr, if_true, Bool.not_true, Bool.false_eq_true,
    takePrim_reads tagBitString c1, takePrim_reads tagBitString c2, hp1, hp2,
    Nat.not_lt.2 h1, Nat.not_lt.2 h2, or_self, ne_eq, not_true_eq_false, Nat.not_lt.2 hle]

theorem tz_le (x : Nat) : tz x ≤ 128 := trailingZeros_le 128 x

theorem to1_le (x : Nat) : to1 x ≤ 128 := trailingOnesAux_le _ _

/-- `min_to_prefix`: the lower bound of a range with its trailing zeros as host bits -/
theorem lo_prefix (x : Nat) : toMin x (128 - tz x) = x :=
  toMin_of_mod _ _ (by rw [Nat.sub_sub_self (tz_le x)]; exact trailingZeros_dvd 128 x)

/-- `max_to_prefix`: the upper bound of a range with its trailing ones as host bits -/
theorem hi_prefix (x : Nat) : toMax (toMin x (128 - to1 x)) (128 - to1 x) = x := by
  have h1 : x % 2 ^ to1 x = 2 ^ to1 x - 1 :=
    (trailingOnesAux_ge 128 (to1 x) x (to1_le x)).1 (Nat.le_refl _)
  rw [toMax, toMin_idem, toMin, Nat.sub_sub_self (to1_le x), ← h1]
  exact Nat.div_add_mod' x _

/-- what `IpBlock::encode` writes for a block, with the lengths it uses, is read back for any family
width that admits those lengths -/
theorem takeOptBlock_encodeBlock_of (W : Nat) (b : Blk) (hb : b.lo ≤ b.hi) (hhi : b.hi ≤ maxAddr)
    (hW : (∀ len, intoPrefix 128 b.lo b.hi = some len → len ≤ W) ∧
      (intoPrefix 128 b.lo b.hi = none → 128 - tz b.lo ≤ W ∧ 128 - to1 b.hi ≤ W)) (rest : Bytes) :
    takeOptBlock W (encodeBlock b ++ rest) = .ok b rest := by
  have hhi' : b.hi < 2 ^ 128 := Nat.lt_succ_of_le hhi
  have hlo : b.lo < 2 ^ 128 := Nat.lt_of_le_of_lt hb hhi'
  unfold encodeBlock
  split
  · rename_i len hip
    obtain ⟨hal, hh⟩ := intoPrefix_sound 128 b.lo b.hi len hip
    have hp := prefixOfContent_encode b.lo len (intoPrefix_some hip).1 hlo
      (toMin_of_mod _ _ hal)
    rw [takeOptBlock_prefix W b.lo len _ rest hp (hW.1 len hip), toMax_of_mod _ _ hal, ← hh]
  · rename_i hip
    have hp1 := prefixOfContent_encode (toMin b.lo (128 - tz b.lo)) (128 - tz b.lo) (Nat.sub_le ..)
      (Nat.lt_of_le_of_lt (toMin_le _ _) hlo) (toMin_idem _ _)
    have hp2 := prefixOfContent_encode (toMin b.hi (128 - to1 b.hi)) (128 - to1 b.hi) (Nat.sub_le ..)
      (Nat.lt_of_le_of_lt (toMin_le _ _) hhi') (toMin_idem _ _)
    dsimp only
    rw [takeOptBlock_range W _ _ _ _ _ _ rest hp1 hp2 (hW.2 hip).1 (hW.2 hip).2
      (by rw [lo_prefix, hi_prefix]; exact hb), lo_prefix, hi_prefix]

theorem takeOptBlock_encodeBlock (b : Blk) (hb : b.lo ≤ b.hi) (hhi : b.hi ≤ maxAddr) (rest : Bytes) :
    takeOptBlock 128 (encodeBlock b ++ rest) = .ok b rest :=
  takeOptBlock_encodeBlock_of 128 b hb hhi
    ⟨fun len h => (intoPrefix_some h).1, fun _ => ⟨Nat.sub_le .., Nat.sub_le ..⟩⟩ rest

theorem takeOptBlock_nil (W : Nat) : takeOptBlock W [] = .absent := rfl

theorem blocksLoop_eq (W : Nat) : blocksLoop W = itemsLoop (takeOptBlock W) := by
  funext fuel
  induction fuel with
  | zero => rfl
  | succ f ih => funext b; rw [blocksLoop, itemsLoop, ih]; cases takeOptBlock W b <;> rfl

theorem length_le_encodeBlocks (c : List Blk) : c.length ≤ ((c.map encodeBlock).flatten).length := by
  refine length_le_flatten_map _ (fun b => ?_) c
  unfold encodeBlock
  split <;> exact tlv_ne_nil _ _

theorem blocksLoop_encode (c : List Blk) (fuel : Nat) (hf : c.length ≤ fuel)
    (hv : ∀ b ∈ c, b.lo ≤ b.hi ∧ b.hi ≤ maxAddr) :
    blocksLoop 128 fuel ((c.map encodeBlock).flatten) = some c :=
  blocksLoop_eq 128 ▸ itemsLoop_flatten _ _ (takeOptBlock_nil 128) c fuel hf fun b hb =>
    takeOptBlock_encodeBlock b (hv b hb).1 (hv b hb).2

theorem bitStringTake_inv (c : Bytes) (u : Nat) (bits : Bytes)
    (h : Manifest.bitStringTake c = some (u, bits)) : c = u :: bits := by
  revert h
  fun_cases Manifest.bitStringTake c <;> intro h <;> cases h <;> rfl

theorem prefixOfContent_spec (c : Bytes) (a len : Nat) (h : prefixOfContent c = some (a, len)) :
    a % 2 ^ (128 - len) = 0 ∧ (AllBytes c → a < 2 ^ 128) := by
  revert h
  fun_cases prefixOfContent c <;> intro h
  · cases h
  · cases h
  rename_i u octets hb hlen _ _
  obtain ⟨rfl, rfl⟩ := Prod.mk.inj (Option.some.inj h)
  refine ⟨toMin_mod _ _, fun hc => Nat.lt_of_le_of_lt (toMin_le _ _) ?_⟩
  have ho : AllBytes octets := fun x hx =>
    hc x (bitStringTake_inv c u octets hb ▸ List.mem_cons_of_mem _ hx)
  have h3 := (Nat.mul_lt_mul_right (Nat.pow_pos (by decide) : 0 < 256 ^ (16 - octets.length))).2
    (toNatBE_lt octets ho)
  rwa [← Nat.pow_add, Nat.add_sub_cancel' (Nat.le_of_not_lt hlen), pow256 16] at h3

theorem prefix_hi_le (c : Bytes) (hc : AllBytes c) (a len : Nat) (h : prefixOfContent c = some (a, len)) :
    a ≤ toMax a len ∧ toMax a len ≤ maxAddr := by
  obtain ⟨hal, hlt⟩ := prefixOfContent_spec c a len h
  have he := Arith.add_le_of_dvd_lt (Nat.dvd_of_mod_eq_zero hal) (Nat.pow_dvd_pow 2 (Nat.sub_le 128 len)) (hlt hc)
  have hp : 0 < 2 ^ (128 - len) := Nat.two_pow_pos _
  rw [toMax_of_mod a len hal, maxAddr]
  omega

theorem takeOptBlock_inv (W : Nat) (b : Bytes) (blk : Blk) (rest : Bytes)
    (h : takeOptBlock W b = .ok blk rest) :
    ∃ t c, readTlv b = some (t, c, rest) ∧
      ((∃ a len, prefixOfContent c = some (a, len) ∧ len ≤ W ∧ blk = ⟨a, toMax a len⟩) ∨
       (∃ c1 r1 c2 r2 a1 l1 a2 l2, takePrim tagBitString c = some (c1, r1) ∧
          takePrim tagBitString r1 = some (c2, r2) ∧ prefixOfContent c1 = some (a1, l1) ∧
          prefixOfContent c2 = some (a2, l2) ∧ l1 ≤ W ∧ l2 ≤ W ∧ a1 ≤ toMax a2 l2 ∧
          blk = ⟨a1, toMax a2 l2⟩)) := by
  cases b with
  | nil => cases h
  | cons t r =>
    rw [takeOptBlock] at h
    obtain ⟨-, h⟩ := ite_eq_right h nofun
    split at h
    · cases h
    next t' c rest' hr =>
    refine ⟨t', c, ?_⟩
    rcases ite_eq_cases h with ⟨-, h⟩ | ⟨-, h⟩
    · obtain ⟨-, h⟩ := ite_eq_right h nofun
      split at h
      next a len hd =>
        obtain ⟨hl, h⟩ := ite_eq_right h nofun
        cases h
        exact ⟨hr, Or.inl ⟨a, len, hd, Nat.le_of_not_lt hl, rfl⟩⟩
      · cases h
    · obtain ⟨-, h⟩ := ite_eq_left h nofun
      obtain ⟨-, h⟩ := ite_eq_right h nofun
      split at h
      · cases h
      next c1 r1 hp1 =>
      split at h
      · cases h
      next c2 r2 hp2 =>
      split at h
      next a1 l1 a2 l2 hd1 hd2 =>
        obtain ⟨hl, h⟩ := ite_eq_right h nofun
        obtain ⟨-, h⟩ := ite_eq_right h nofun
        obtain ⟨hle, h⟩ := ite_eq_right h nofun
        cases h
        exact ⟨hr, Or.inr ⟨c1, r1, c2, r2, a1, l1, a2, l2, hp1, hp2, hd1, hd2,
          Nat.le_of_not_lt fun h => hl (Or.inl h), Nat.le_of_not_lt fun h => hl (Or.inr h),
          Nat.le_of_not_lt hle, rfl⟩⟩
      · cases h

theorem takeOptBlock_ok (W : Nat) (b : Bytes) (hb : AllBytes b) (blk : Blk) (rest : Bytes)
    (h : takeOptBlock W b = .ok blk rest) :
    (blk.lo ≤ blk.hi ∧ blk.hi ≤ maxAddr) ∧ AllBytes rest := by
  obtain ⟨t, c, hr, hcase⟩ := takeOptBlock_inv W b blk rest h
  obtain ⟨sc, sr⟩ := (readTlv_hands _ _ _ _ hr).sub
  have hc : AllBytes c := fun x hx => hb x (sc hx)
  refine ⟨?_, fun x hx => hb x (sr hx)⟩
  rcases hcase with ⟨a, len, hp, _, rfl⟩ | ⟨c1, r1, c2, r2, a1, l1, a2, l2, hp1, hp2, _, hd2, _, _, hle, rfl⟩
  · exact prefix_hi_le c hc a len hp
  · obtain ⟨_, s1r⟩ := Der.takePrim_sub _ _ _ _ hp1
    obtain ⟨s2, _⟩ := Der.takePrim_sub _ _ _ _ hp2
    exact ⟨hle, (prefix_hi_le c2 (fun x hx => hc x (s1r x (s2 x hx))) a2 l2 hd2).2⟩

theorem takeOptBlock_wf (W : Nat) (b : Bytes) (blk : Blk) (rest : Bytes)
    (h : takeOptBlock W b = .ok blk rest) (hb : AllBytes b) : blk.lo ≤ blk.hi ∧ blk.hi ≤ maxAddr :=
  (takeOptBlock_ok W b hb blk rest h).1

theorem blocksLoop_sound (W fuel : Nat) (b : Bytes) (bs : List Blk) (hb : AllBytes b)
    (h : blocksLoop W fuel b = some bs) : ∀ blk ∈ bs, blk.lo ≤ blk.hi ∧ blk.hi ≤ maxAddr :=
  itemsLoop_sound (P := AllBytes) (takeOptBlock_ok W) fuel b bs hb (blocksLoop_eq W ▸ h)

theorem decodeBlocks_spec (W : Nat) (b : Bytes) (hb : AllBytes b) (c : List Blk)
    (h : decodeBlocks W b = some c) :
    ∃ content rest bs, takeCons tagSeq b = some (content, rest) ∧
      blocksLoop W content.length content = some bs ∧ Canon maxAddr c ∧
      ∀ x, mem c x ↔ ∃ blk ∈ bs, blk.lo ≤ x ∧ x ≤ blk.hi := by
  unfold decodeBlocks at h
  split at h
  · cases h
  next content r0 h1 =>
  obtain ⟨s1, _⟩ := Der.takeCons_sub _ _ _ _ h1
  obtain ⟨bs, hl, rfl⟩ := Option.map_eq_some_iff.1 h
  exact ⟨content, r0, bs, h1, hl, fromIter_spec' maxAddr bs (blocksLoop_sound W _ _ _ (fun x hx => hb x (s1 x hx)) hl)⟩

theorem ones_mod {x m k : Nat} (hk : k ≤ m) (hx : x % 2 ^ m = 0) : (x + 2 ^ m - 1) % 2 ^ k = 2 ^ k - 1 := by
  obtain ⟨q, hq⟩ : 2 ^ k ∣ x + 2 ^ m :=
    Nat.dvd_add (Nat.dvd_of_mod_eq_zero (aligned_mono hx hk)) (Nat.pow_dvd_pow 2 hk)
  cases q with
  | zero => exact absurd hq (Nat.ne_of_gt (Nat.add_pos_right x (Nat.two_pow_pos m)))
  | succ q =>
    rw [hq, Nat.mul_succ, Nat.add_sub_assoc (Nat.two_pow_pos k), Nat.mul_add_mod]
    exact Nat.mod_eq_of_lt (Nat.sub_lt (Nat.two_pow_pos k) Nat.one_pos)

theorem takeOptBlock_shape (W : Nat) (b : Bytes) (blk : Blk) (rest : Bytes)
    (h : takeOptBlock W b = .ok blk rest) :
    blk.lo % 2 ^ (128 - W) = 0 ∧ blk.hi % 2 ^ (128 - W) = 2 ^ (128 - W) - 1 := by
  have key : ∀ c a len, prefixOfContent c = some (a, len) → len ≤ W →
      a % 2 ^ (128 - W) = 0 ∧ toMax a len % 2 ^ (128 - W) = 2 ^ (128 - W) - 1 := fun c a len hp hl =>
    have hal := (prefixOfContent_spec c a len hp).1
    have hk : 128 - W ≤ 128 - len := Nat.sub_le_sub_left hl 128
    ⟨aligned_mono hal hk, toMax_of_mod a len hal ▸ ones_mod hk hal⟩
  obtain ⟨t, c, _, hcase⟩ := takeOptBlock_inv W b blk rest h
  rcases hcase with ⟨a, len, hp, hl, rfl⟩ | ⟨c1, r1, c2, r2, a1, l1, a2, l2, _, _, hd1, hd2, hl1, hl2, _, rfl⟩
  · exact key c a len hp hl
  · exact ⟨(key c1 a1 l1 hd1 hl1).1, (key c2 a2 l2 hd2 hl2).2⟩

theorem takeOptBlock_v4_shape (b : Bytes) (hb : AllBytes b) (blk : Blk) (rest : Bytes)
    (h : takeOptBlock 32 b = .ok blk rest) : blk.lo % 2 ^ 96 = 0 ∧ blk.hi % 2 ^ 96 = 2 ^ 96 - 1 :=
  have _ := hb
  takeOptBlock_shape 32 b blk rest h

end Rpki.IpDer
