/-
  Text form of resource sets (`Rpki/Model/ResText.lean`): the characters of a written IPv6 address; blocks and
  lists of blocks of either address family read back what was written (`Shaped`, `parseIpBlock_fmt`); the
  set-level round trips for canonical chains; and that the written sets can stand as XML attribute values.
-/
import Rpki.Proofs.ResTextLemmas
import Rpki.Proofs.ChainPrefix
namespace Rpki.ResText
open Rpki.Chain

/-- a hexadecimal digit in lower case, `:` or `.` -/
def V6Char (c : Nat) : Prop := c = 46 ∨ c = 58 ∨ (48 ≤ c ∧ c ≤ 57) ∨ (97 ≤ c ∧ c ≤ 102)

theorem V6Char.ge {c : Nat} (h : V6Char c) : 46 ≤ c ∧ c ≠ 47 ∧ c ≠ 60 := by
  unfold V6Char at h; omega

theorem joinColon_chars : ∀ (gs : List Nat), ∀ c ∈ joinColon gs, V6Char c := by
  have hh : ∀ g, ∀ c ∈ hexLower g, V6Char c := fun g c hc => Or.inr (Or.inr ((hexLower_chars g).2 c hc))
  intro gs
  induction gs with
  | nil => exact fun c hc => absurd hc List.not_mem_nil
  | cons g rest ih =>
    cases rest with
    | nil => exact hh g
    | cons g' rest =>
      rw [joinColon_cons2]
      exact List.forall_mem_append.2 ⟨hh g, List.forall_mem_cons.2 ⟨Or.inr (Or.inl rfl), ih⟩⟩

theorem fmtV6_chars (a : Nat) : ∀ c ∈ fmtV6 a, V6Char c := by
  rcases fmtV6_cases a with ⟨_, e⟩ | ⟨xs, ys, len, _, _, e⟩ | e
  · rw [e]
    refine List.forall_mem_append.2 ⟨by unfold V6Char; decide, fun c hc => ?_⟩
    have := (fmtV4_chars _).2 c hc
    unfold V6Char
    omega
  · rw [e]
    exact List.forall_mem_append.2 ⟨joinColon_chars _, List.forall_mem_cons.2 ⟨.inr (.inl rfl),
      List.forall_mem_cons.2 ⟨.inr (.inl rfl), joinColon_chars _⟩⟩⟩
  · rw [e]
    exact joinColon_chars _

theorem fmtV6_has_colon (a : Nat) : 58 ∈ fmtV6 a := by
  rcases fmtV6_cases a with ⟨_, e⟩ | ⟨xs, ys, len, _, _, e⟩ | e
  · rw [e]; exact List.mem_cons_self
  · rw [e]; exact List.mem_append_right _ List.mem_cons_self
  · obtain ⟨g, g', rest, eg⟩ : ∃ g g' rest, groups a = g :: g' :: rest := ⟨_, _, _, rfl⟩
    rw [e, eg, joinColon_cons2]
    exact List.mem_append_right _ List.mem_cons_self

theorem fmtV6_ne_nil (a : Nat) : fmtV6 a ≠ [] :=
  List.ne_nil_of_mem (fmtV6_has_colon a)

theorem fmtAddr_chars (v4 : Bool) (x : Nat) : ∀ c ∈ fmtAddr v4 x, 46 ≤ c ∧ c ≠ 47 := by
  intro c hc
  cases v4
  · exact ⟨(fmtV6_chars x c hc).ge.1, (fmtV6_chars x c hc).ge.2.1⟩
  · exact ⟨((fmtV4_chars _).2 c hc).1, ((fmtV4_chars _).2 c hc).2.1⟩

/-- an address of the family: 128 bits, for IPv4 in the upper 32 -/
def AddrOk (v4 : Bool) (x : Nat) : Prop := x < 2 ^ 128 ∧ (v4 = true → x % 2 ^ 96 = 0)

theorem parseAddr_fmt (v4 : Bool) (x : Nat) (h : AddrOk v4 x) : parseAddr v4 (fmtAddr v4 x) = some x := by
  cases v4
  · exact parseV6_fmtV6 x h.1
  · exact (parseAddr_fmt_v4 x h.1).trans (congrArg some (Nat.div_mul_cancel (Nat.dvd_of_mod_eq_zero (h.2 rfl))))

/-- the upper address of a range, as the reader completes it: for IPv4 the low 96 bits are filled -/
theorem parseAddr_fmt_hi (v4 : Bool) (hi : Nat) (hlt : hi < 2 ^ 128) (h4 : v4 = true → hi % 2 ^ 96 = 2 ^ 96 - 1) :
    ∃ y, parseAddr v4 (fmtAddr v4 hi) = some y ∧ (if v4 then y + (2 ^ 96 - 1) else y) = hi := by
  cases v4
  · exact ⟨hi, parseV6_fmtV6 hi hlt, if_neg Bool.false_ne_true⟩
  · have e := Nat.div_add_mod' hi (2 ^ 96)
    rw [h4 rfl] at e
    exact ⟨hi / 2 ^ 96 * 2 ^ 96, parseAddr_fmt_v4 hi hlt, (if_pos rfl).trans e⟩

/-- a block as a chain of the family stores it -/
def Shaped (v4 : Bool) : TBlk → Prop
  | .pfx a len => len ≤ (if v4 then 32 else 128) ∧ AddrOk v4 a ∧ a / 2 ^ (128 - len) * 2 ^ (128 - len) = a
  | .range lo hi => lo ≤ hi ∧ hi < 2 ^ 128 ∧ (v4 = true → lo % 2 ^ 96 = 0 ∧ hi % 2 ^ 96 = 2 ^ 96 - 1)

/-- the IPv4 case, as `C03.ipv4_text_roundtrip` states it -/
def V4Shaped : TBlk → Prop
  | .pfx a len => len ≤ 32 ∧ a % 2 ^ 96 = 0 ∧ a < 2 ^ 128 ∧ a / 2 ^ (128 - len) * 2 ^ (128 - len) = a
  | .range lo hi => lo % 2 ^ 96 = 0 ∧ hi % 2 ^ 96 = 2 ^ 96 - 1 ∧ lo ≤ hi ∧ hi < 2 ^ 128

theorem shaped_v4 (t : TBlk) : V4Shaped t ↔ Shaped true t := by
  cases t with
  | pfx a len => exact ⟨fun ⟨h1, h2, h3, h4⟩ => ⟨h1, ⟨h3, fun _ => h2⟩, h4⟩, fun ⟨h1, h2, h4⟩ => ⟨h1, h2.2 rfl, h2.1, h4⟩⟩
  | range lo hi => exact ⟨fun ⟨h1, h2, h3, h4⟩ => ⟨h3, h4, fun _ => ⟨h1, h2⟩⟩, fun ⟨h3, h4, h⟩ => ⟨(h rfl).1, (h rfl).2, h3, h4⟩⟩

theorem parseIpBlock_fmt (v4 : Bool) (t : TBlk) (h : Shaped v4 t) :
    (parseIpBlock v4 (fmtBlock v4 t)).map tblkBounds = some (tblkBounds t) := by
  have hch := fmtAddr_chars v4
  cases t with
  | pfx a len =>
    obtain ⟨hlen, ha, hal⟩ := h
    by_cases hW : len = if v4 then 32 else 128
    · -- the full length is written as the address alone and read as a range: the same bounds
      simp only [fmtBlock, if_pos hW, List.append_nil]
      rw [parseIpBlock_addr v4 _ a (hch a) (parseAddr_fmt v4 a ha), hW]
      cases v4 <;> rfl
    · simp only [fmtBlock, if_neg hW, List.singleton_append]
      rw [parseIpBlock_pfx v4 _ _ a len (hch a) (parseAddr_fmt v4 a ha)
        (parseLen_decimal len (Nat.le_trans hlen (by cases v4 <;> decide))) hlen, hal]
      rfl
  | range lo hi =>
    obtain ⟨hle, hlt, h4⟩ := h
    have hlo := parseAddr_fmt v4 lo ⟨Nat.lt_of_le_of_lt hle hlt, fun e => (h4 e).1⟩
    by_cases hq : if v4 then lo / 2 ^ 96 = hi / 2 ^ 96 else lo = hi
    · -- one address is written; the reader's range over it ends at `hi`
      have e : (if v4 then lo + (2 ^ 96 - 1) else lo) = hi := by
        cases v4
        · exact hq
        · have := h4 rfl; have hq : lo / 2 ^ 96 = hi / 2 ^ 96 := hq
          show lo + (2 ^ 96 - 1) = hi; omega
      simp only [fmtBlock, if_pos hq]
      rw [parseIpBlock_addr v4 _ lo (hch lo) hlo, e]
      rfl
    · obtain ⟨y, hy, e⟩ := parseAddr_fmt_hi v4 hi hlt fun e => (h4 e).2
      simp only [fmtBlock, if_neg hq, List.append_assoc, List.singleton_append]
      rw [parseIpBlock_range v4 _ _ lo y (hch lo) (hch hi) hlo hy, e]
      rfl

theorem fmtBlock_v6_chars (t : TBlk) : 58 ∈ fmtBlock false t ∧ ∀ c ∈ fmtBlock false t, 45 ≤ c ∧ c ≠ 60 := by
  refine ⟨?_, fmtBlock_chars false _ (fun x c hc => by have := (fmtV6_chars x c hc).ge; omega) (by decide)
    (by decide) (fun c hc => by omega) t⟩
  obtain ⟨x, r, e⟩ := fmtBlock_head false t
  rw [e]
  exact List.mem_append_left _ (fmtV6_has_colon x)

/-- a written block is not empty, holds nothing below `-`, and a colon exactly when it is an IPv6 block: what
`from_str` looks at before it reads the items -/
theorem fmtBlock_text (v4 : Bool) (t : TBlk) :
    fmtBlock v4 t ≠ [] ∧ (∀ c ∈ fmtBlock v4 t, 45 ≤ c) ∧ (58 ∈ fmtBlock v4 t ↔ v4 = false) := by
  cases v4
  · have h := fmtBlock_v6_chars t
    exact ⟨List.ne_nil_of_mem h.1, fun c hc => (h.2 c hc).1, fun _ => rfl, fun _ => h.1⟩
  · exact ⟨fmtBlock_ne_nil true (fun _ => (fmtV4_chars _).1) t, fun c hc => (fmtBlock_v4_chars t c hc).1,
      fun hc => by have := (fmtBlock_v4_chars t 58 hc).2; omega, fun e => Bool.noConfusion e⟩

theorem parseIpItems_fmt_shaped (v4 : Bool) (ts : List TBlk) (h : ∀ t ∈ ts, Shaped v4 t) :
    (parseIpItems v4 (fmtIp v4 ts)).map (·.map tblkBounds) = some (ts.map tblkBounds) :=
  parseIpItems_fmt v4 ts (fun t _ => ⟨(fmtBlock_text v4 t).1, (fmtBlock_text v4 t).2.1⟩)
    (fun t _ => (fmtBlock_text v4 t).2.2) (fun t ht => parseIpBlock_fmt v4 t (h t ht))

theorem intoPrefix_v4_le (lo hi len : Nat) (h : intoPrefix 128 lo hi = some len)
    (hlo : lo % 2 ^ 96 = 0) (hhi : hi % 2 ^ 96 = 2 ^ 96 - 1) : len ≤ 32 := by
  obtain ⟨h1, h2, h3⟩ := intoPrefix_some h
  by_cases hl : len ≤ 32
  · exact hl
  · exfalso
    have hp : 2 ^ (128 - len) ≤ 2 ^ 95 := Nat.pow_le_pow_right (by decide) (by omega)
    have hpos : 0 < 2 ^ (128 - len) := Nat.pow_pos (by decide)
    generalize 2 ^ (128 - len) = sz at *
    omega

theorem tagged_shaped (v4 : Bool) (b : Blk) (h : b.lo ≤ b.hi) (hh : b.hi < 2 ^ 128)
    (h4 : v4 = true → b.lo % 2 ^ 96 = 0 ∧ b.hi % 2 ^ 96 = 2 ^ 96 - 1) :
    tblkBounds (tagged b) = b ∧ Shaped v4 (tagged b) := by
  obtain ⟨lo, hi⟩ := b
  simp only at h hh h4 ⊢
  unfold tagged
  simp only
  cases e : intoPrefix 128 lo hi with
  | none => exact ⟨rfl, h, hh, h4⟩
  | some len =>
    obtain ⟨h1, h2, h3⟩ := intoPrefix_some e
    have hlen : len ≤ if v4 then 32 else 128 := by
      cases v4
      · exact h1
      · exact intoPrefix_v4_le lo hi len e (h4 rfl).1 (h4 rfl).2
    refine ⟨?_, hlen, ⟨Nat.lt_of_le_of_lt h hh, fun e => (h4 e).1⟩, h2⟩
    simp only [tblkBounds, hostMask, h3]

theorem parseIpItems_tagged (v4 : Bool) (c : List Blk) (hc : Canon (2 ^ 128 - 1) c)
    (h4 : v4 = true → ∀ b ∈ c, b.lo % 2 ^ 96 = 0 ∧ b.hi % 2 ^ 96 = 2 ^ 96 - 1) :
    ∃ ts, parseIpItems v4 (fmtIp v4 (c.map tagged)) = some ts ∧ ts.map tblkBounds = c := by
  have hS : ∀ b ∈ c, tblkBounds (tagged b) = b ∧ Shaped v4 (tagged b) := fun b hb =>
    tagged_shaped v4 b (hc.1 b hb).1 (Nat.lt_of_le_of_lt (hc.1 b hb).2 (by decide)) fun e => h4 e b hb
  obtain ⟨ts, e, hts⟩ := Option.map_eq_some_iff.1
    (parseIpItems_fmt_shaped v4 (c.map tagged) (List.forall_mem_map.2 fun b hb => (hS b hb).2))
  refine ⟨ts, e, hts.trans ?_⟩
  rw [List.map_map]
  exact (List.map_congr_left (g := id) fun b hb => (hS b hb).1).trans (List.map_id c)

theorem text_set_roundtrip (v4 : Bool) (c : List Blk) (hc : Canon (2 ^ 128 - 1) c)
    (h : ∃ ts, parseIpItems v4 (fmtIp v4 (c.map tagged)) = some ts ∧ ts.map tblkBounds = c) :
    (parseIpItems v4 (fmtIp v4 (c.map tagged))).map (fun ts => fromIter (2 ^ 128 - 1) (ts.map tblkBounds)) =
      some c := by
  obtain ⟨ts, e, h⟩ := h
  rw [e, Option.map_some, h, Chain.fromIter_canon_id _ c hc]

theorem ip6_text_set_roundtrip (c : List Blk) (hc : Canon (2 ^ 128 - 1) c) :
    (parseIpItems false (fmtIp false (c.map tagged))).map (fun ts => fromIter (2 ^ 128 - 1) (ts.map tblkBounds)) = some c :=
  text_set_roundtrip false c hc (parseIpItems_tagged false c hc nofun)

theorem ip4_text_set_roundtrip (c : List Blk) (hc : Canon (2 ^ 128 - 1) c)
    (h4 : ∀ b ∈ c, b.lo % 2 ^ 96 = 0 ∧ b.hi % 2 ^ 96 = 2 ^ 96 - 1) :
    (parseIpItems true (fmtIp true (c.map tagged))).map (fun ts => fromIter (2 ^ 128 - 1) (ts.map tblkBounds)) = some c :=
  text_set_roundtrip true c hc (parseIpItems_tagged true c hc fun _ => h4)

/-! The written sets hold no `"` and no `<`, so they can stand as XML attribute values as they are. -/

theorem joinComma_chars (P : Nat → Prop) (h44 : P 44) (h32 : P 32) : ∀ ps : List Bytes,
    (∀ p ∈ ps, ∀ c ∈ p, P c) → ∀ c ∈ joinComma ps, P c := by
  intro ps
  induction ps with
  | nil => exact fun _ c hc => absurd hc List.not_mem_nil
  | cons p rest ih =>
    intro h
    cases rest with
    | nil => exact h p List.mem_cons_self
    | cons q rest =>
      exact List.forall_mem_append.2 ⟨List.forall_mem_append.2 ⟨h p List.mem_cons_self,
        List.forall_mem_cons.2 ⟨h44, List.forall_mem_singleton.2 h32⟩⟩, ih fun r hr => h r (List.mem_cons_of_mem _ hr)⟩

theorem joinComma_value (ps : List Bytes) (h : ∀ p ∈ ps, ∀ c ∈ p, 45 ≤ c ∧ c ≠ 60) :
    34 ∉ joinComma ps ∧ 60 ∉ joinComma ps := by
  have := joinComma_chars (fun c => c ≠ 34 ∧ c ≠ 60) (by decide) (by decide) ps fun p hp c hc => by
    have := h p hp c hc
    omega
  exact ⟨fun hm => (this 34 hm).1 rfl, fun hm => (this 60 hm).2 rfl⟩

theorem fmtAs_value (c : List Blk) : 34 ∉ fmtAs c ∧ 60 ∉ fmtAs c := by
  refine joinComma_value _ fun p hp => ?_
  obtain ⟨b, _, rfl⟩ := List.mem_map.1 hp
  exact (fmtAsBlock_chars b).2

theorem fmtIp_value (v4 : Bool) (ts : List TBlk) : 34 ∉ fmtIp v4 ts ∧ 60 ∉ fmtIp v4 ts := by
  refine joinComma_value _ fun p hp => ?_
  obtain ⟨t, _, rfl⟩ := List.mem_map.1 hp
  cases v4 with
  | true => intro c hc; have := fmtBlock_v4_chars t c hc; omega
  | false => exact (fmtBlock_v6_chars t).2

end Rpki.ResText
